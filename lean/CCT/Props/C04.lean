import CCT.Props.C03
import CCT.Props.C08
/-!
# C04 — root chain integrity over arbitrary histories of offered updates

The only state of the protocol is the client's trusted root.  A client that replaces it only by offers the library accepts is
`run`; the theorems hold for every finite sequence of offers (honest, replayed, rolled back, skipping, signed by revoked,
insufficient or self-appointed keys) and every signature scheme.
-/
namespace CCT.C04
open CCT CCT.C15 CCT.C03 CCT.C07
open Classical

/-- the client: replace the trusted root exactly when the library accepts the offer -/
noncomputable def step (C : CryptoFns) (cur offer : J) : J := if verifyRootJ C cur offer = .ok () then offer else cur

noncomputable def run (C : CryptoFns) (init : J) (offers : List J) : J := offers.foldl (step C) init

/-- roots reachable from `a` by single accepted links -/
inductive Chain (C : CryptoFns) : J → J → Prop
  | refl (a : J) : Chain C a a
  | snoc {a b c : J} : Chain C a b → SpecVerifyRoot C b c → Chain C a c

/-- **chain integrity**: whatever is offered, the client always holds a root reached from the initial one by single version
increments, each link signed by the threshold of root keys in force at the previous link (and consistent with itself) -/
theorem chain_integrity (C : CryptoFns) (init : J) (offers : List J) : Chain C init (run C init offers) := by
  refine List.foldlRecOn offers (step C) (Chain.refl init) fun cur h o _ => ?_
  unfold step
  split
  · rename_i hv; exact Chain.snoc h ((verifyRoot_iff C cur o).mp hv)
  · exact h

/-- along a chain the version never decreases: it grows by a natural number -/
theorem chain_version (C : CryptoFns) (a b : J) (h : Chain C a b) : ∃ n : Nat, versionOf b = versionOf a + n := by
  induction h with
  | refl => exact ⟨0, by simp⟩
  | snoc _ hs ih => obtain ⟨n, hn⟩ := ih; exact ⟨n + 1, by rw [hs.2.2.1, hn]; omega⟩

/-- the trusted root's version never decreases, whatever is offered (no rollback) -/
theorem version_monotone (C : CryptoFns) (init : J) (offers : List J) : versionOf init ≤ versionOf (run C init offers) := by
  obtain ⟨n, hn⟩ := chain_version C _ _ (chain_integrity C init offers); omega

/-- **a party that never holds a threshold of the then-current root keys cannot change the client's trusted root**: if no offer meets
the root rule of any root on the chain, the client still holds the initial root -/
theorem powerless_without_threshold (C : CryptoFns) (init : J) (offers : List J)
    (h : ∀ cur, Chain C init cur → ∀ o ∈ offers, ¬ RuleMet C true (rootRule cur) o) : run C init offers = init := by
  -- the hypothesis speaks of every root on the chain, but only its instance at `init` is used: the induction shows that the client never leaves `init`
  refine List.foldlRecOn (motive := (· = init)) offers (step C) rfl fun cur e o ho => ?_
  subst e
  exact if_neg fun hv => h cur (Chain.refl cur) o ho ((verifyRoot_iff C cur o).mp hv).2.2.2.1

/-- an accepted offer carries the next version: replay, rollback and skipping are the three ways to miss it -/
theorem accepted_version {C : CryptoFns} {cur o : J} (hv : verifyRootJ C cur o = .ok ()) : versionOf o = versionOf cur + 1 :=
  ((verifyRoot_iff C cur o).mp hv).2.2.1

/-- replay: the root just accepted (or any root with the same version) is rejected when offered again -/
theorem replay_rejected (C : CryptoFns) (cur o : J) (h : versionOf o = versionOf cur) : verifyRootJ C cur o ≠ .ok () := by
  intro hv; have := accepted_version hv; omega

/-- rollback: an older root is rejected -/
theorem rollback_rejected (C : CryptoFns) (cur o : J) (h : versionOf o < versionOf cur) : verifyRootJ C cur o ≠ .ok () := by
  intro hv; have := accepted_version hv; omega

/-- skipping: a root two or more versions ahead is rejected -/
theorem skip_rejected (C : CryptoFns) (cur o : J) (h : versionOf cur + 2 ≤ versionOf o) : verifyRootJ C cur o ≠ .ok () := by
  intro hv; have := accepted_version hv; omega

/-- revoked keys: signatures by keys that are no longer among the current root's keys do not count towards its rule -/
theorem revoked_keys_do_not_count (C : CryptoFns) (cur o : J) (k : PStr) (sig : J) (h : k ∉ keysOf (rootRule cur)) :
    ¬ Counts C true (keysOf (rootRule cur)) (ser (signedOf o)) k sig := C01.unauthorized_never_counts C true _ _ k sig h

/-- self-appointed keys: meeting only the rule the offer declares for itself is not enough -/
theorem self_appointed_rejected (C : CryptoFns) (cur o : J) (h : ¬ RuleMet C true (rootRule cur) o) : verifyRootJ C cur o ≠ .ok () := by
  intro hv; exact h ((verifyRoot_iff C cur o).mp hv).2.2.2.1

/-- **the verdict on an offer never depends on earlier offers**: it is a function of the current trusted root and the offer -/
theorem verdict_history_free (C : CryptoFns) (init : J) (before : List J) (o : J) :
    run C init (before ++ [o]) = step C (run C init before) o := by
  simp [run, List.foldl_append]

/-- two histories that leave the client with the same trusted root treat every further offer alike -/
theorem same_state_same_future (C : CryptoFns) (init : J) (h1 h2 rest : List J) (h : run C init h1 = run C init h2) :
    run C init (h1 ++ rest) = run C init (h2 ++ rest) := by
  simp only [run, List.foldl_append] at h ⊢; rw [h]

/-- a client that writes its trusted root to disk and loads it back before looking at each offer -/
noncomputable def stepPersist (C : CryptoFns) (cur offer : J) : J :=
  if verifyRootJ C (canon cur) offer = .ok () then offer else canon cur

noncomputable def runPersist (C : CryptoFns) (init : J) (offers : List J) : J := offers.foldl (stepPersist C) init

/-- **persisting the trusted root to disk between steps is transparent**: on well-formed offers, and started on two presentations of one root,
the persisting client ends with the same root (up to the canonical re-ordering a reload performs) as the client that keeps it in memory -/
theorem persistence_transparent (C : CryptoFns) (offers : List J) (hw : ∀ o ∈ offers, o.WF) :
    ∀ (a b : J), a.WF → b.WF → canon a = canon b → canon (runPersist C a offers) = canon (run C b offers) := by
  intro a b ha hb hab
  refine (List.foldl_rel (r := SameJ) ⟨ha, hb, hab⟩ fun o ho a b s => ?_).2.2
  have sc : SameJ (canon a) b := (SameJ.of_canon s.1).symm.trans s
  unfold stepPersist step
  rw [verifyRoot_same C sc (.refl (hw o ho))]
  split
  · exact .refl (hw o ho)
  · exact sc

/-- `persistence_transparent` when the initial root and every offer were read from strict-UTF-8 files (any layout): no well-formedness
hypothesis is left, and the persisting client and the in-memory client end with the same root up to the canonical re-ordering -/
theorem persistence_transparent_files (C : CryptoFns) (initFile : Bytes) (init : J) (hi : NoSurLead initFile) (hl : loadBytes initFile = some init)
    (offers : List J) (hfiles : ∀ o ∈ offers, ∃ b, NoSurLead b ∧ loadBytes b = some o) :
    canon (runPersist C init offers) = canon (run C init offers) :=
  persistence_transparent C offers (fun o ho => by obtain ⟨b, hb, hlo⟩ := hfiles o ho; exact load_wf hb hlo)
    init init (load_wf hi hl) (load_wf hi hl) rfl

end CCT.C04
