import CCT.Model.Construct
import CCT.Lemmas.TimeFmt
import CCT.Props.C13
/-!
# C16 — metadata constructors emit only well-formed, faithful metadata

Model: `CCT/Model/Construct.lean` (`metadata_construction.py:36-164`, `common.py:902-918`).  The wall clock is a parameter (two readings);
the theorems about defaults assume valid readings whose expiry year is representable (≤ 9999; a clock in the year 9999 makes `datetime` overflow).
-/
namespace CCT.C16
open CCT CCT.C15
open Classical

def OkOrArgJ (r : Res J) : Prop := (∃ v, r = .ok v) ∨ r = .error .arg

theorem check_bind_okOrArg {f : J → Res Unit} {P : J → Prop} [DecidablePred P] (hf : ∀ x, f x = if P x then .ok () else .error .arg)
    (v : PyVal) (b : Res J) (hb : OkOrArgJ b) : OkOrArgJ (liftJ f v >>= fun _ => b) := by
  rcases C13.validators_families_anykind f (fun x => hf x ▸ C13.okOrArg_ite _) v with h | h <;> rw [h]
  · exact hb
  · exact .inr rfl

/-- the builder returns metadata or raises an argument error — nothing else -/
theorem build_outcomes (now1 now2 : DateTime) (ty : PyVal) (dels : Option PyVal) (ver : PyVal) (ts exp : Option PyVal) :
    OkOrArgJ (buildDelegatingMd now1 now2 ty dels ver ts exp) := by
  unfold buildDelegatingMd
  refine check_bind_okOrArg checkString_eq _ _ ?_
  refine check_bind_okOrArg checkUtc_eq _ _ ?_
  refine check_bind_okOrArg checkUtc_eq _ _ ?_
  refine check_bind_okOrArg checkNaturalInt_eq _ _ ?_
  refine check_bind_okOrArg checkDelegations_eq _ _ ?_
  split
  · exact .inl ⟨_, rfl⟩
  · exact .inr rfl

/-- every failure of the builder is an argument error -/
theorem build_err_is_argerror (now1 now2 : DateTime) (ty : PyVal) (dels : Option PyVal) (ver : PyVal) (ts exp : Option PyVal) (e : PyErr)
    (h : buildDelegatingMd now1 now2 ty dels ver ts exp = .error e) : e = .arg := by
  rcases build_outcomes now1 now2 ty dels ver ts exp with ⟨v, hv⟩ | hv
  · cases hv.symm.trans h
  · exact (Except.error.inj (hv.symm.trans h)).symm

/-- what a successful call returns: the six fields, carrying the arguments verbatim and the library's specification version, and every
argument check passed -/
theorem build_ok_fields (now1 now2 : DateTime) (ty : PyVal) (dels : Option PyVal) (ver : PyVal) (ts exp : Option PyVal) (md : J)
    (h : buildDelegatingMd now1 now2 ty dels ver ts exp = .ok md) :
    ∃ t v tsv ex d, ty = .j t ∧ ver = .j v ∧ ts.getD (.j (.str (isoNowPlusDays now1 0))) = .j tsv ∧
      exp.getD (.j (.str (isoNowPlusDays now2 365))) = .j ex ∧ dels.getD (.j (.obj [])) = .j d ∧
      md = .obj [(ps! "type", t), (ps! "version", v), (ps! "metadata_spec_version", .str specVersion),
                 (ps! "timestamp", tsv), (ps! "expiration", ex), (ps! "delegations", d)] ∧
      checkStringJ t = .ok () ∧ checkUtcJ tsv = .ok () ∧ checkUtcJ ex = .ok () ∧ checkNaturalIntJ v = .ok () ∧ checkDelegationsJ d = .ok () := by
  unfold buildDelegatingMd at h            -- `simp only [buildDelegatingMd]` would first prove equations that split the final `match`
  simp only [bind_eq_ok] at h
  obtain ⟨_, h1, _, h2, _, h3, _, h4, _, h5, h⟩ := h
  obtain ⟨t, rfl, c1⟩ := liftJ_ok h1
  obtain ⟨tsv, e2, c2⟩ := liftJ_ok h2
  obtain ⟨ex, e3, c3⟩ := liftJ_ok h3
  obtain ⟨v, rfl, c4⟩ := liftJ_ok h4
  obtain ⟨d, e5, c5⟩ := liftJ_ok h5
  rw [e2, e3, e5] at h
  exact ⟨t, v, tsv, ex, d, rfl, rfl, e2, e3, e5, (Except.ok.inj h).symm, c1, c2, c3, c4, c5⟩

/-- the value wrapped as an envelope (no signatures yet) -/
def wrapped (md : J) : J := .obj [(ps! "signatures", .obj []), (ps! "signed", md)]

/-- what is returned meets the checker's conditions on the signed part: every lookup in the six-field object evaluates, and the values
found there passed the builder's own checks -/
theorem build_ok_signedOK (now1 now2 : DateTime) (ty : PyVal) (dels : Option PyVal) (ver : PyVal) (ts exp : Option PyVal) (md : J)
    (h : buildDelegatingMd now1 now2 ty dels ver ts exp = .ok md) (tys : PStr) (hty : ty = .j (.str tys)) (hs : tys ∈ supportedDelegatingTypes) :
    SignedOK md := by
  obtain ⟨t, v, tsv, ex, d, e1, _, _, _, _, rfl, _, c2, c3, c4, c5⟩ := build_ok_fields now1 now2 ty dels ver ts exp md h
  cases hty.symm.trans e1
  exact ⟨_, rfl, ⟨tys, rfl, hs⟩, ⟨specVersion, rfl⟩, ⟨d, rfl, (C14.delegations_iff d).mp c5⟩, ⟨ex, rfl, (C14.utc_iff ex).mp c3⟩, .inl rfl,
    fun _ => rfl, fun _ ht => Option.some.inj ht ▸ (C14.utc_iff tsv).mp c2, fun _ hv => Option.some.inj hv ▸ (C14.naturalInt_iff v).mp c4⟩

/-- **whatever is returned, once wrapped, passes the delegating-metadata checker** (for the supported types).  That it carries type, version,
timestamps and delegations verbatim plus the library's specification version is `build_ok_fields` -/
theorem build_ok_wellformed (now1 now2 : DateTime) (ty : PyVal) (dels : Option PyVal) (ver : PyVal) (ts exp : Option PyVal) (md : J)
    (h : buildDelegatingMd now1 now2 ty dels ver ts exp = .ok md) (tys : PStr) (hty : ty = .j (.str tys)) (hs : tys ∈ supportedDelegatingTypes) :
    checkDelegatingMdJ (wrapped md) = .ok () :=
  -- `wrapped md` is the literal envelope that `signedOnlyEnvelope md` is
  (C14.checker_iff_schema _).mpr ((schema_signedOnly md).mpr (build_ok_signedOK now1 now2 ty dels ver ts exp md h tys hty hs))

/-- **the default timestamp and expiration are well-formed UTC strings**: they parse back to the first clock reading and to the second reading
plus 365 days, and the date of the latter is strictly later than that of the second reading.  The two readings are not related in the statement:
that the metadata expires after its timestamp follows for readings with `now1` not later than `now2` -/
theorem default_times (now1 now2 : DateTime) (h1 : now1.valid = true) (h2 : now2.valid = true) (hy : (addDays 365 now2).year ≤ 9999) :
    checkUtcJ (.str (isoNowPlusDays now1 0)) = .ok () ∧ checkUtcJ (.str (isoNowPlusDays now2 365)) = .ok () ∧
    pyStrptimeUtc (isoNowPlusDays now1 0) = some now1 ∧ pyStrptimeUtc (isoNowPlusDays now2 365) = some (addDays 365 now2) ∧
    dateLt now2 (addDays 365 now2) := by
  have p1 := strptime_isoZ now1 h1
  have p2 := strptime_isoZ (addDays 365 now2) (addDays_valid' 365 now2 h2 hy)
  have ok {s : PStr} {d : DateTime} (p : pyStrptimeUtc s = some d) : checkUtcJ (.str s) = .ok () := (C14.utc_iff _).mpr ⟨s, rfl, p ▸ rfl⟩
  exact ⟨ok p1, ok p2, p1, p2, (addDays_later 364 now2).1⟩

/-- **root metadata built by the wrapper always delegates both `root` and `key_mgr`** with the given keys and thresholds -/
theorem buildRoot_delegates_both (now0 now1 : DateTime) (ver rk rt kk kt : J) (ts exp : Option PyVal) (md : J)
    (h : buildRootMd now0 now1 (.j ver) (.j rk) (.j rt) (.j kk) (.j kt) ts exp = .ok md) :
    ∃ rest, md = .obj rest ∧ dictGet (ps! "type") rest = some (.str (ps! "root")) ∧
      dictGet (ps! "delegations") rest = some (.obj [(ps! "root", .obj [(ps! "pubkeys", rk), (ps! "threshold", rt)]),
                                                      (ps! "key_mgr", .obj [(ps! "pubkeys", kk), (ps! "threshold", kt)])]) := by
  obtain ⟨t, v, tsv, ex, d, e1, _, _, _, e5, rfl, _⟩ := build_ok_fields _ _ _ _ _ _ _ _ h
  cases e1
  cases e5
  exact ⟨_, rfl, rfl, rfl⟩

/-- root metadata built by the wrapper, once wrapped as an envelope, is accepted by the checker -/
theorem buildRoot_wellformed (now0 now1 : DateTime) (ver rk rt kk kt : J) (ts exp : Option PyVal) (md : J)
    (h : buildRootMd now0 now1 (.j ver) (.j rk) (.j rt) (.j kk) (.j kt) ts exp = .ok md) : checkDelegatingMdJ (wrapped md) = .ok () :=
  build_ok_wellformed _ _ _ _ _ _ _ md h (ps! "root") rfl (by decide)

open CCT.C03

/-- what the builder puts into root metadata: the rule `{pubkeys, threshold}` under the name `root` -/
def ruleJ (keys thr : J) : J := .obj [(ps! "pubkeys", keys), (ps! "threshold", thr)]

/-- **an envelope around built root metadata — with any well-formed signature entries — is well-formed root metadata** that declares the
given root rule and the given version -/
theorem built_root_envelope (now0 now1 : DateTime) (ver rk rt kk kt : J) (ts exp : Option PyVal) (md : J)
    (h : buildRootMd now0 now1 (.j ver) (.j rk) (.j rt) (.j kk) (.j kt) ts exp = .ok md)
    (env : J) (entries : List (PStr × J)) (hp : EnvParts env entries md) (hs : ∀ p ∈ entries, AnySigOK p.2) :
    IsRootMd env ∧ rootRule env = ruleJ rk rt ∧ versionOf env = (asInt ver).getD 0 := by
  have hso := build_ok_signedOK _ _ _ _ _ _ _ md h (ps! "root") rfl (by decide)
  obtain ⟨t, v, tsv, ex, d, e1, e2, _, _, e5, rfl, _⟩ := build_ok_fields _ _ _ _ _ _ _ _ h
  cases e1
  cases e2
  cases e5
  -- everything `verify_root` reads from `env` it reads from the signed part, the six-field object
  have hsigned := (envParts_accessors hp).1
  have hrole : roleOf env (ps! "root") = some (ruleJ rk rt) := by rw [roleOf, delegationsOf, hsigned]; rfl
  exact ⟨⟨⟨entries, _, hp, hs, hso⟩, by rw [typeOf, hsigned]; rfl, by rw [hrole]; rfl⟩, by rw [rootRule, hrole]; rfl, by rw [versionOf, hsigned]; rfl⟩

/-- **built root metadata, once threshold-signed, verifies as the successor of the previous built version and so can authorize its own
successor**: roots `md1` (version `v`) and `md2` (version `v + 1`) from the builder; an envelope around `md2` whose OpenPGP-mode signatures
meet `md1`'s root keys / threshold and `md2`'s own is accepted by `verify_root` on the basis of (an envelope around) `md1` -/
theorem built_root_verifies_as_successor (C : CryptoFns)
    (nowA nowB nowC nowD : DateTime) (v1 rk1 rt1 kk1 kt1 v2 rk2 rt2 kk2 kt2 : J) (ts1 ex1 ts2 ex2 : Option PyVal) (md1 md2 : J)
    (h1 : buildRootMd nowA nowB (.j v1) (.j rk1) (.j rt1) (.j kk1) (.j kt1) ts1 ex1 = .ok md1)
    (h2 : buildRootMd nowC nowD (.j v2) (.j rk2) (.j rt2) (.j kk2) (.j kt2) ts2 ex2 = .ok md2)
    (hv : (asInt v2).getD 0 = (asInt v1).getD 0 + 1)
    (env1 env2 : J) (e1 e2 : List (PStr × J)) (hp1 : EnvParts env1 e1 md1) (hs1 : ∀ p ∈ e1, AnySigOK p.2)
    (hp2 : EnvParts env2 e2 md2) (hs2 : ∀ p ∈ e2, AnySigOK p.2)
    (hold : RuleMet C true (ruleJ rk1 rt1) env2) (hnew : RuleMet C true (ruleJ rk2 rt2) env2) :
    verifyRootJ C env1 env2 = .ok () := by
  obtain ⟨r1, q1, w1⟩ := built_root_envelope nowA nowB v1 rk1 rt1 kk1 kt1 ts1 ex1 md1 h1 env1 e1 hp1 hs1
  obtain ⟨r2, q2, w2⟩ := built_root_envelope nowC nowD v2 rk2 rt2 kk2 kt2 ts2 ex2 md2 h2 env2 e2 hp2 hs2
  rw [verifyRoot_iff]
  exact ⟨r1, r2, by rw [w1, w2, hv], by rw [q1]; exact hold, by rw [q2]; exact hnew⟩

/-- the hypotheses are satisfiable: the builder does return root metadata for ordinary arguments -/
example : (match buildRootMd ⟨2024, 5, 17, 10, 0, 0⟩ ⟨2024, 5, 17, 10, 0, 1⟩ (.j (.int 1))
    (.j (.arr [.str (List.replicate 64 97)])) (.j (.int 1)) (.j (.arr [.str (List.replicate 64 98)])) (.j (.int 1)) none none with
    | .ok _ => true | .error _ => false) = true := by decide +kernel

end CCT.C16
