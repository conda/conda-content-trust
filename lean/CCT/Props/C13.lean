import CCT.Props.C14
import CCT.Props.C06
import CCT.Model.IntLimit
import CCT.Props.C07
/-!
# C13 — failures are fail-closed and use the documented error families

The model functions use raw dictionary subscripts (`dictIndex`, which *can* yield `KeyError`) wherever the Python code does, so the
statements below are real theorems about guards, not consequences of the result type: from the validators, the predicates and the five
verifiers no `KeyError`, `AttributeError`, `OverflowError`, `AssertionError` is reachable for any argument (the signing functions are not
covered: `signRepodataJ` answers `.attribute` when `"packages"` is not an object, `signSignable` when handed a public key).  Termination: every model function is total (structural or
fuel-bounded recursion accepted by Lean's termination checker).
-/
namespace CCT.C13
open CCT CCT.C15
open Classical

def OkOrArg (r : Res Unit) : Prop := r = .ok () ∨ r = .error .arg

theorem okOrArg_ite (p : Prop) [Decidable p] : OkOrArg (if p then .ok () else .error .arg) := by
  by_cases h : p <;> simp [OkOrArg, h]

/-- **every public validator, on every JSON value, either accepts or raises TypeError/ValueError** -/
theorem validators_families (v : J) :
    OkOrArg (checkHexStringJ v) ∧ OkOrArg (checkHexKeyJ v) ∧ OkOrArg (checkSignableJ v) ∧ OkOrArg (checkNaturalIntJ v) ∧
    OkOrArg (checkStringJ v) ∧ OkOrArg (checkListOfHexKeysJ v) ∧ OkOrArg (checkUtcJ v) ∧ OkOrArg (checkGpgFingerprintJ v) ∧
    OkOrArg (checkGpgSignatureJ v) ∧ OkOrArg (checkSignatureJ v) ∧ OkOrArg (checkAnySignatureJ v) ∧ OkOrArg (checkDelegationJ v) ∧
    OkOrArg (checkDelegationsJ v) ∧ OkOrArg (checkDelegatingMdJ v) := by
  -- each of them is in closed form, `if … then .ok () else .error .arg`
  simp only [checkHexString_eq, checkHexKey_eq, checkSignableJ, okU, checkNaturalInt_eq, checkString_eq, checkListOfHexKeys_eq, checkUtc_eq,
    checkGpgFingerprint_eq, checkGpgSignature_eq, checkSignature_eq, checkAnySignature_eq, checkDelegation_eq, checkDelegations_eq,
    checkDelegatingMd_eq, okOrArg_ite, and_self]

/-- a validator that accepts or raises TypeError/ValueError on every JSON value does so on every other kind of Python value in the argument position too -/
theorem validators_families_anykind (f : J → Res Unit) (hf : ∀ v, OkOrArg (f v)) (v : PyVal) : OkOrArg (liftJ f v) := by
  cases v with
  | j x => exact hf x
  | _ => exact .inr rfl

theorem kind_validators_families (v : PyVal) : OkOrArg (checkBytesLike v) ∧ OkOrArg (checkExpirationDistance v) ∧ OkOrArg (checkKey v) := by
  cases v <;> simp [OkOrArg, checkBytesLike, checkExpirationDistance, checkKey, okU]

/-- the predicates never raise -/
theorem predicates_never_raise (v : J) : (∃ b, isHexStringJ v = .ok b) ∧ (∃ b, isHexKeyJ v = .ok b) ∧ (∃ b, isHexSignatureJ v = .ok b) ∧
    (∃ b, isGpgFingerprintJ v = .ok b) ∧ (∃ b, isGpgSignatureJ v = .ok b) ∧ (∃ b, isSignatureJ v = .ok b) :=
  (pred_agrees v).2.2.2.2.2

/-- declarative reading of the reason set of `verify_root` -/
theorem verifyRootReasons_mem (C : CryptoFns) (t u : J) (e : PyErr) :
    e ∈ verifyRootReasons C t u ↔
      (e = .arg ∧ ¬ (IsRootMd t ∧ IsRootMd u)) ∨
      (IsRootMd t ∧ IsRootMd u ∧
        ((e = .metadataVerification ∧ versionOf u ≠ versionOf t + 1) ∨
         (e = .signature ∧ ¬ (RuleMet C true (rootRule t) u ∧ RuleMet C true (rootRule u) u)))) := by
  rw [verifyRootReasons_eq, ← and_assoc]
  by_cases h : IsRootMd t ∧ IsRootMd u
  · simp only [h, not_true_eq_false, if_false, and_false, false_or, true_and, and_self, List.mem_append, mem_ite_singleton_nil,
      mem_ite_nil_singleton, ne_comm (a := versionOf u)]
  · simp only [h, not_false_eq_true, if_true, and_true, false_and, or_false, List.mem_singleton]

/-- **`verify_root` reports only classes whose reason applies** -/
theorem verifyRoot_reports_applicable (C : CryptoFns) (t u : J) (e : PyErr) (h : verifyRootJ C t u = .error e) :
    e ∈ verifyRootReasons C t u :=
  mem_of_firstOf (verifyRoot_first_reason C t u ▸ h)

/-- **`verify_root` accepts exactly when no rejection reason applies** -/
theorem verifyRoot_accepts_iff_no_reason (C : CryptoFns) (t u : J) :
    verifyRootJ C t u = .ok () ↔ verifyRootReasons C t u = [] := by
  rw [verifyRoot_first_reason, firstOf_eq_ok]

/-- declarative reading of the reason set of `verify_delegation` -/
theorem verifyDelegationReasons_mem (C : CryptoFns) (name : PStr) (u t : J) (gpg : Bool) (e : PyErr) :
    e ∈ verifyDelegationReasons C name u t gpg ↔
      (e = .arg ∧ ¬ (Schema t ∧ isSignableJ u = true)) ∨
      (Schema t ∧ isSignableJ u = true ∧
        ((e = .metadataVerification ∧ TypeMismatch name u) ∨
         (e = .unknownRole ∧ roleOf t name = none) ∨
         (e = .signature ∧ ∃ d, roleOf t name = some d ∧ ¬ RuleMet C gpg d u))) := by
  rw [verifyDelegationReasons_eq, ← and_assoc]
  by_cases h : Schema t ∧ isSignableJ u = true
  · simp only [h, not_true_eq_false, if_false, and_false, false_or, true_and, and_self, List.mem_append, mem_ite_singleton_nil]
    cases roleOf t name with
    | none => simp only [List.mem_cons, List.not_mem_nil, or_false, and_true, reduceCtorEq, false_and, exists_const, and_false]
    | some d => simp only [mem_ite_nil_singleton, reduceCtorEq, and_false, Option.some.injEq, exists_eq_left', false_or]
  · simp only [h, not_false_eq_true, if_true, and_true, false_and, or_false, List.mem_singleton]

/-- **`verify_delegation` reports only classes whose reason applies** -/
theorem verifyDelegation_reports_applicable (C : CryptoFns) (name : PStr) (u t : J) (gpg : Bool) (e : PyErr)
    (h : verifyDelegationJ C name u t gpg = .error e) : e ∈ verifyDelegationReasons C name u t gpg :=
  mem_of_firstOf (verifyDelegation_first_reason C name u t gpg ▸ h)

/-- **`verify_delegation` accepts exactly when no rejection reason applies** -/
theorem verifyDelegation_accepts_iff_no_reason (C : CryptoFns) (name : PStr) (u t : J) (gpg : Bool) :
    verifyDelegationJ C name u t gpg = .ok () ↔ verifyDelegationReasons C name u t gpg = [] := by
  rw [verifyDelegation_first_reason, firstOf_eq_ok]

/-- `verify_signable`: accept, argument error, or signature error -/
theorem verifySignable_families (C : CryptoFns) (s k t g : PyVal) :
    verifySignable C s k t g = .ok () ∨ verifySignable C s k t g = .error .arg ∨ verifySignable C s k t g = .error .signature := by
  fun_cases verifySignable C s k t g with
  | case1 => exact C01.verifySignable_outcomes C _ _ _ _      -- four JSON arguments
  | _ => exact .inr (.inl rfl)

/-- `verify_delegation`: accept, or argument / metadata-verification / unknown-role / signature error -/
theorem verifyDelegation_families (C : CryptoFns) (n u t g : PyVal) :
    verifyDelegation C n u t g = .ok () ∨ ∃ e, verifyDelegation C n u t g = .error e ∧
      (e = .arg ∨ e = .metadataVerification ∨ e = .unknownRole ∨ e = .signature) := by
  -- off the JSON kinds every path ends in an argument error (one of them after the checker has run on the trusted side)
  fun_cases verifyDelegation C n u t g with
  | case2 => exact verifyDelegation_outcomes C _ _ _ _        -- every argument of its JSON kind
  | case3 _ _ _ _ _ t' => rcases C14.checker_total t' with h | h <;> rw [h] <;> exact .inr ⟨_, rfl, .inl rfl⟩   -- only the untrusted side is not JSON
  | _ => exact .inr ⟨_, rfl, .inl rfl⟩

/-- `verify_root`: accept, or argument / metadata-verification / signature error -/
theorem verifyRoot_families (C : CryptoFns) (t u : PyVal) :
    verifyRoot C t u = .ok () ∨ verifyRoot C t u = .error .arg ∨ verifyRoot C t u = .error .metadataVerification ∨
    verifyRoot C t u = .error .signature := by
  fun_cases verifyRoot C t u with
  | case1 => exact C03.verifyRoot_outcomes C _ _              -- two JSON arguments
  | case2 => exact .inr (.inl rfl)                            -- any other kind of argument

/-- the single-signature primitives: accept, argument error, or the crypto library's invalid-signature error -/
theorem verifySignature_families (C : CryptoFns) (s k d : PyVal) :
    verifySignature C s k d = .ok () ∨ verifySignature C s k d = .error .arg ∨ verifySignature C s k d = .error .invalidSignature := by
  fun_cases verifySignature C s k d with
  | case1 pk sg =>                               -- a key object and a JSON signature (`verifySignature_eq` also wants the data to be bytes)
    simp only [isHexSignature_eq, ok_bind]
    split
    · exact .inr (.inl rfl)                      -- not 128 hex characters
    · split
      · split                                    -- the data are bytes: the crypto library decides
        · exact .inl rfl
        · exact .inr (.inr rfl)
      · exact .inr (.inl rfl)
  | _ => exact .inr (.inl rfl)                   -- another kind of key or signature

theorem verifyGpgSignatureJ_families (C : CryptoFns) (s k : J) (d : Bytes) :
    verifyGpgSignatureJ C s k d = .ok () ∨ verifyGpgSignatureJ C s k d = .error .arg ∨ verifyGpgSignatureJ C s k d = .error .invalidSignature := by
  rw [verifyGpgSignatureJ_eq]
  split
  · split
    · exact .inl rfl
    · exact .inr (.inr rfl)
  · exact .inr (.inl rfl)

/-- insufficient valid signatures on otherwise well-formed arguments: signature error -/
theorem class_insufficient_sigs (C : CryptoFns) (env keys thr : J) (gpg : Bool) (entries : List (PStr × J)) (signed : J) (ks : List J) (t : Int)
    (hp : EnvParts env entries signed) (hkeys : keys = .arr ks) (hk : ∀ k ∈ ks, HexN 64 k) (ht : asInt thr = some t) (hpos : 0 < t)
    (hm : ¬ ThresholdMet C gpg (ks.map strOf) (ser signed) entries t.toNat) :
    verifySignableJ C env keys thr gpg = .error .signature :=
  C02.insufficient_is_signature_error C env keys thr gpg entries signed ks t hp hkeys hk ht hpos hm
/-- an undelegated role: unknown-role error -/
theorem class_unknown_role (C : CryptoFns) (name : PStr) (u t : J) (gpg : Bool) (hT : Schema t) (hU : isSignableJ u = true)
    (hm : ¬ TypeMismatch name u) (hr : roleOf t name = none) : verifyDelegationJ C name u t gpg = .error .unknownRole :=
  C05.unknown_role C name u t gpg hT hU hm hr
/-- a root-version mismatch: metadata-verification error -/
theorem class_version_mismatch (C : CryptoFns) (t u : J) (ht : IsRootMd t) (hu : IsRootMd u) (hv : versionOf u ≠ versionOf t + 1) :
    verifyRootJ C t u = .error .metadataVerification := C03.version_mismatch_error C t u ht hu hv
/-- a type-for-role mismatch: metadata-verification error -/
theorem class_type_mismatch (C : CryptoFns) (name : PStr) (u t : J) (gpg : Bool) (hT : Schema t) (hU : isSignableJ u = true)
    (h : TypeMismatch name u) : verifyDelegationJ C name u t gpg = .error .metadataVerification :=
  C06.type_mismatch_error C name u t gpg hT hU h

/-- the verifiers as CPython runs them on payloads holding integers beyond the conversion limit (`Model/IntLimit.lean`): that layer in one
equation — the outcomes reached after serialization become an argument error when the encoder refuses the payload -/
theorem withIntLimit_eq (payload : J) (r : Res Unit) :
    withIntLimit payload r = if (r = .ok () ∨ r = .error .signature) ∧ payload.intsOK = false then .error .arg else r := by
  fun_cases withIntLimit payload r with
  | case5 r h1 h2 => exact (if_neg fun h => h.1.elim (h1 ()) h2).symm      -- neither acceptance nor a signature error
  | _ => simp [*]

/-- acceptance under the refusal layer implies acceptance by the underlying model (and a payload within the limit).  This is the step by which a
soundness theorem of C01, C03, C05, C06 carries over to a layered verifier; no such instance is stated -/
theorem intLimit_accept_implies (payload : J) (r : Res Unit) (h : withIntLimit payload r = .ok ()) : r = .ok () ∧ payload.intsOK = true := by
  rw [withIntLimit_eq] at h
  split at h
  · cases h
  · rename_i hn
    exact ⟨h, by simpa [h] using hn⟩

/-- on the format's domain (payloads that were loaded from a file, or any well-formed value) the layer changes nothing -/
theorem intLimit_same_on_wf (payload : J) (hw : payload.WF) (r : Res Unit) : withIntLimit payload r = r := by
  rw [withIntLimit_eq, if_neg (by simp [CCT.C07.intsOK_of_wf payload hw])]

/-- the layer keeps every outcome inside the documented families: whatever the underlying verifier reports, the layered one reports the same or an argument error -/
theorem intLimit_families (payload : J) (r : Res Unit) : withIntLimit payload r = r ∨ withIntLimit payload r = .error .arg := by
  rw [withIntLimit_eq]
  split
  · exact .inr rfl
  · exact .inl rfl

/-- a payload the encoder refuses is never accepted by any verifier, and never reported as a mere signature error: it is an argument error or one of the
errors raised before serialization is reached -/
theorem refused_payload_outcomes (payload : J) (h : payload.intsOK = false) (r : Res Unit) :
    withIntLimit payload r ≠ .ok () ∧ withIntLimit payload r ≠ .error .signature := by
  rw [withIntLimit_eq]
  split
  · exact ⟨nofun, nofun⟩
  · rename_i hn
    exact ⟨fun e => hn ⟨.inl e, h⟩, fun e => hn ⟨.inr e, h⟩⟩

-- non-vacuity: a payload the encoder refuses exists (an integer of 4301 digits), and one it does not
example : (J.obj [([110], J.int (10 ^ 4300))]).intsOK = false := by decide +kernel
example : (J.obj [([110], J.int (10 ^ 4300 - 1))]).intsOK = true := by decide +kernel
example : withIntLimit (J.int (10 ^ 4300)) (.ok ()) = .error .arg ∧ withIntLimit (J.int 7) (.ok ()) = .ok () := by
  constructor <;> decide +kernel

end CCT.C13
