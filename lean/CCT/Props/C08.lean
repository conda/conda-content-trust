import CCT.Props.C07
import CCT.Props.C09
import CCT.Lemmas.CanonInv
import CCT.Model.Files
/-!
# C08 — persisting metadata never changes its trust status

Files are written as `ser v` (`write_metadata_to_file` = `canonserialize` then one `write`) and read by `loadBytes`
(`json.load` on the bytes: UTF-8 decoding, then `parse`).
-/
namespace CCT.C08
open CCT CCT.C07
open Classical

theorem ser_lt_128 (v : J) (hv : v.WF) : ∀ b ∈ ser v, b < 128 := fun b hb => by
  rcases ser_ascii v hv b hb with h | h <;> omega

/-- **load ∘ write**: writing any well-formed value and loading the file back yields the same JSON value (its key-sorted form) -/
theorem load_write (v : J) (hv : v.WF) : loadBytes (ser v) = some (canon v) := by
  rw [loadBytes_ascii (ser_lt_128 v hv)]
  exact parse_ser v hv

/-- **the file written is itself in canonical form**: re-writing what was loaded reproduces the file byte for byte -/
theorem written_canonical (v : J) (hv : v.WF) : (loadBytes (ser v)).map ser = some (ser v) := by
  rw [load_write v hv]
  simp [ser_canon v hv]

/-- `n` write/load cycles of a value -/
def cycles : Nat → J → J
  | 0, v => v
  | n+1, v => cycles n (canon v)

theorem cycles_same (n : Nat) : ∀ {v : J}, v.WF → SameJ v (cycles n v) := by
  induction n with
  | zero => exact fun hv => .refl hv
  | succ n ih => exact fun {v} hv => (SameJ.of_canon hv).trans (ih (canon_wf v hv))

/-- **unchanged canonical bytes**: any number of write/load cycles leaves the bytes that are signed and verified unchanged, and
the value stays in the domain -/
theorem cycles_preserve_bytes : ∀ (n : Nat) (v : J), v.WF → (cycles n v).WF ∧ ser (cycles n v) = ser v :=
  fun n _ hv => ⟨(cycles_same n hv).2.1, (ser_same (cycles_same n hv)).symm⟩

/-- **adding a signature to a stored envelope never alters the signatures already present under other keys** -/
theorem add_signature_preserves_others (entries : List (PStr × J)) (C : CryptoFns) (seed : Bytes) (signed : J) (k : PStr)
    (hk : k ≠ C09.pubHex C seed) :
    dictGet k (dictSet entries (C09.pubHex C seed) (C09.sigEntry C seed signed)) = dictGet k entries :=
  C09.sign_other_entries k entries C seed signed hk

/-- entries under other keys that counted before a signature was added to a stored envelope still count afterwards: signing leaves the payload,
hence its canonical bytes, unchanged -/
theorem add_signature_keeps_counting (C : CryptoFns) (gpg : Bool) (auth : List PStr) (signed : J) (entries : List (PStr × J)) (seed : Bytes)
    (thr : Nat) (h : ThresholdMet C gpg auth (ser signed) (entries.filter (fun p => p.1 ≠ C09.pubHex C seed)) thr) :
    ThresholdMet C gpg auth (ser signed) (dictSet entries (C09.pubHex C seed) (C09.sigEntry C seed signed)) thr := by
  refine h.imp (Nat.le_refl thr) fun k sig hm hc => ?_
  simp only [List.mem_filter, decide_eq_true_eq] at hm
  exact ⟨sig, mem_dictSet_of_mem_ne hm.1 hm.2, hc⟩

theorem canon_verdicts (C : CryptoFns) {env trusted : J} (he : env.WF) (ht : trusted.WF) :
    (∀ keys thr gpg, verifySignableJ C (canon env) keys thr gpg = verifySignableJ C env keys thr gpg) ∧
    (∀ name gpg, verifyDelegationJ C name (canon env) (canon trusted) gpg = verifyDelegationJ C name env trusted gpg) ∧
    verifyRootJ C (canon trusted) (canon env) = verifyRootJ C trusted env :=
  ⟨fun keys thr gpg => verifySignable_canon C env keys thr gpg he, fun name gpg => verifyDelegation_canon C name env trusted gpg he ht,
    verifyRoot_canon C trusted env ht he⟩

/-- **every verification verdict is the same before and after a write/load cycle**: the value loaded back from the file the library wrote
gets the same verdict from all three verifiers as the value in memory (all arguments well-formed JSON values) -/
theorem reload_preserves_verdicts (C : CryptoFns) (env trusted : J) (he : env.WF) (ht : trusted.WF) :
    ∃ env' trusted', loadBytes (ser env) = some env' ∧ loadBytes (ser trusted) = some trusted' ∧
      (∀ keys thr gpg, verifySignableJ C env' keys thr gpg = verifySignableJ C env keys thr gpg) ∧
      (∀ name gpg, verifyDelegationJ C name env' trusted' gpg = verifyDelegationJ C name env trusted gpg) ∧
      verifyRootJ C trusted' env' = verifyRootJ C trusted env :=
  ⟨canon env, canon trusted, load_write env he, load_write trusted ht, canon_verdicts C he ht⟩

/-- the verdict of `verify_signable` on an envelope is the same after any number of write/load cycles -/
theorem cycles_preserve_verdicts (C : CryptoFns) : ∀ (n : Nat) (env : J), env.WF → ∀ keys thr gpg,
    verifySignableJ C (cycles n env) keys thr gpg = verifySignableJ C env keys thr gpg :=
  fun n _ he keys thr gpg => (verifySignable_same C keys thr gpg (cycles_same n he)).symm

/-- reloading only the trusted side (what a client does with its cached root) does not change the verdict on an offer -/
theorem reload_trusted_only (C : CryptoFns) (t u : J) (ht : t.WF) (hu : u.WF) : verifyRootJ C (canon t) u = verifyRootJ C t u :=
  (verifyRoot_same C (.of_canon ht) (.refl hu)).symm

theorem writeMd_eq_some {fs g : FS} {name : PStr} {v : J} : writeMd fs name v = some g ↔ v.intsOK = true ∧ g = fs.put name (ser v) := by
  unfold writeMd serPy
  split <;> simp [*, eq_comm]

/-- **what a write leaves in the named file does not depend on what was there**: two file systems, whatever they hold under the name (a file another
tool left there — final newline, BOM, other layout, longer, shorter, nothing), hold the same thing under it after the same value was written -/
theorem write_over_anything (fs fs' : FS) (name : PStr) (v : J) (g g' : FS) (h : writeMd fs name v = some g) (h' : writeMd fs' name v = some g') :
    g name = g' name ∧ g name = some (ser v) := by
  obtain ⟨_, rfl⟩ := writeMd_eq_some.mp h
  obtain ⟨_, rfl⟩ := writeMd_eq_some.mp h'
  simp [FS.put]

/-- **a write touches the named file only** (no sibling, temporary or backup file appears or changes) -/
theorem write_frame (fs g : FS) (name other : PStr) (v : J) (h : writeMd fs name v = some g) (hne : other ≠ name) : g other = fs other := by
  obtain ⟨_, rfl⟩ := writeMd_eq_some.mp h
  simp [FS.put, hne]

/-- **write, then load under the same name** gives the (key-sorted) value back, for every well-formed value and whatever the file system held -/
theorem write_then_load (fs : FS) (name : PStr) (v : J) (hv : v.WF) : ∃ g, writeMd fs name v = some g ∧ loadMd g name = some (canon v) := by
  refine ⟨_, writeMd_eq_some.mpr ⟨intsOK_of_wf v hv, rfl⟩, ?_⟩
  simp [loadMd, FS.put, load_write v hv]

/-- a refused value (an in-memory integer beyond the interpreter's conversion limit) makes the write `none`: nothing is opened, serialization comes first -/
theorem refused_write_touches_nothing (fs : FS) (name : PStr) (v : J) (h : serPy v = none) : writeMd fs name v = none := by
  simp [writeMd, h]

/-- **signing a stored file in place touches that file only**: after a `signFile` that succeeded, every other file is as it was.  (A run that fails —
the file is missing or is not an envelope — is `none` in `Model/Files.lean`: no file system results, and nothing is stated about it here.) -/
theorem signFile_frame (C : CryptoFns) (fs g : FS) (name other : PStr) (seed : Bytes) (h : signFile C fs name seed = some g) (hne : other ≠ name) :
    g other = fs other := by
  revert h
  fun_cases signFile C fs name seed with
  | case2 _ _ env' _ => exact fun h => write_frame fs g name other env' h hne     -- loaded and signed: the write
  | _ => nofun

/-- **the order in which the members of any object were inserted — at any depth, in either argument — never matters to a verdict**: two presentations of the
same JSON values (equal after key-sorting) get the same answer from `verify_signable`, `verify_delegation`, `verify_root` and the checker.  (In particular a
trusted delegation spelled `{"threshold": …, "pubkeys": …}` is the delegation spelled the other way round.) -/
theorem member_order_irrelevant (C : CryptoFns) (name : PStr) (u u' t t' keys thr : J) (gpg : Bool)
    (hu : u.WF) (hu' : u'.WF) (ht : t.WF) (ht' : t'.WF) (eu : canon u = canon u') (et : canon t = canon t') :
    verifySignableJ C u keys thr gpg = verifySignableJ C u' keys thr gpg ∧
    verifyDelegationJ C name u t gpg = verifyDelegationJ C name u' t' gpg ∧
    verifyRootJ C t u = verifyRootJ C t' u' ∧
    checkDelegatingMdJ t = checkDelegatingMdJ t' := by
  have su : SameJ u u' := ⟨hu, hu', eu⟩
  have st : SameJ t t' := ⟨ht, ht', et⟩
  refine ⟨verifySignable_same C keys thr gpg su, verifyDelegation_same C name gpg su st, verifyRoot_same C st su, ?_⟩
  rw [checkDelegatingMd_eq, checkDelegatingMd_eq, st.iff_of_imp schema_same]

-- two spellings of a delegation with the same canonical form (the hypothesis `canon u = canon u'` of `member_order_irrelevant`), seen through `ser`
example : ser (canon (.obj [(ps! "threshold", .int 1), (ps! "pubkeys", .arr [])])) = ser (canon (.obj [(ps! "pubkeys", .arr []), (ps! "threshold", .int 1)])) := by
  decide +kernel

/-- **every value loaded from a strict-UTF-8 file is a well-formed JSON value** — so the well-formedness hypothesis of the theorems of this
file (and of C04, C07) holds for everything that `load_metadata_from_file` returned for such a file -/
theorem loaded_is_wf (b : Bytes) (v : J) (hb : NoSurLead b) (h : loadBytes b = some v) : v.WF := load_wf hb h

/-- the files the library writes are ASCII, hence strict UTF-8 -/
theorem written_is_strict (v : J) (hv : v.WF) : NoSurLead (ser v) := noSurLead_ascii _ (ser_lt_128 v hv)

/-- **persistence, stated on files**: metadata loaded from any two strict-UTF-8 files, written back by the library and loaded again,
gets the same verdict from all three verifiers; and the files written are fixed points of load-then-write -/
theorem file_cycle_preserves_verdicts (C : CryptoFns) (be bt : Bytes) (env trusted : J) (hbe : NoSurLead be) (hbt : NoSurLead bt)
    (he : loadBytes be = some env) (ht : loadBytes bt = some trusted) :
    ∃ env' trusted', loadBytes (ser env) = some env' ∧ loadBytes (ser trusted) = some trusted' ∧
      ser env' = ser env ∧ ser trusted' = ser trusted ∧
      (∀ keys thr gpg, verifySignableJ C env' keys thr gpg = verifySignableJ C env keys thr gpg) ∧
      (∀ name gpg, verifyDelegationJ C name env' trusted' gpg = verifyDelegationJ C name env trusted gpg) ∧
      verifyRootJ C trusted' env' = verifyRootJ C trusted env := by
  have we := load_wf hbe he
  have wt := load_wf hbt ht
  exact ⟨_, _, load_write env we, load_write trusted wt, ser_canon env we, ser_canon trusted wt, canon_verdicts C we wt⟩

end CCT.C08
