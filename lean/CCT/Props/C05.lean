import CCT.Lemmas.Rules
import CCT.Props.C01
/-!
# C05 — the delegation check uses exactly the named role's keys and threshold

Model: `verifyDelegationJ` (`authentication.py:142-244`).  `Schema` is the documented format of delegating metadata
(C14), `roleOf t name` the delegation the *trusted* metadata lists under exactly that name, `RuleMet` the threshold
test of C01/C02 with that delegation's keys and threshold.
-/
namespace CCT.C05
open CCT CCT.C15
open Classical

/-- what the property demands for acceptance -/
def Spec (C : CryptoFns) (name : PStr) (u t : J) (gpg : Bool) : Prop :=
  Schema t ∧ isSignableJ u = true ∧ ¬ TypeMismatch name u ∧ ∃ d, roleOf t name = some d ∧ RuleMet C gpg d u

/-- **accepted iff** the trusted metadata is well formed, the untrusted value is a signable envelope, the trusted metadata delegates to a
role of exactly that name, that role's key set and threshold are met by valid signatures on the untrusted envelope, and the untrusted
metadata — if it is itself delegating metadata — declares that role as its type -/
theorem verifyDelegation_iff (C : CryptoFns) (name : PStr) (u t : J) (gpg : Bool) :
    verifyDelegationJ C name u t gpg = .ok () ↔ Spec C name u t gpg := by
  rw [verifyDelegation_verdict]
  cases hr : roleOf t name <;> simp [Spec, hr, ite_error_eq_ok, ite_else_error_eq_ok, and_assoc]

/-- a role that is not delegated is reported as unknown rather than accepted -/
theorem unknown_role (C : CryptoFns) (name : PStr) (u t : J) (gpg : Bool) (hT : Schema t) (hU : isSignableJ u = true)
    (hm : ¬ TypeMismatch name u) (hr : roleOf t name = none) : verifyDelegationJ C name u t gpg = .error .unknownRole := by
  rw [verifyDelegation_verdict, if_neg (not_not_intro ⟨hT, hU⟩), if_neg hm, hr]

/-- insufficient signatures for a delegated role are a signature error -/
theorem role_not_met (C : CryptoFns) (name : PStr) (u t : J) (gpg : Bool) (hT : Schema t) (hU : isSignableJ u = true)
    (hm : ¬ TypeMismatch name u) (d : J) (hr : roleOf t name = some d) (hn : ¬ RuleMet C gpg d u) :
    verifyDelegationJ C name u t gpg = .error .signature := by
  rw [verifyDelegation_verdict, if_neg (not_not_intro ⟨hT, hU⟩), if_neg hm, hr]
  exact if_neg hn

/-- keys listed only for other roles never count: whatever else the trusted metadata delegates, the verdict is a function of the
delegation it lists under `name` alone -/
theorem other_roles_irrelevant (C : CryptoFns) (name : PStr) (u t t' : J) (gpg : Bool) (hT : Schema t) (hT' : Schema t')
    (h : roleOf t name = roleOf t' name) : verifyDelegationJ C name u t gpg = verifyDelegationJ C name u t' gpg := by
  rw [verifyDelegation_verdict, verifyDelegation_verdict, h]
  simp only [hT, hT']

/-- an entry that counts towards a rule `d` is filed under one of `d`'s keys — in `verify_delegation`, a key of the delegation the trusted
metadata lists under the name; keys listed elsewhere, for other roles or inside the untrusted metadata, never count -/
theorem only_keys_of_named_role_count (C : CryptoFns) (gpg : Bool) (d u : J) (k : PStr) (sig : J)
    (h : Counts C gpg (keysOf d) (ser (signedOf u)) k sig) : k ∈ keysOf d := h.2.1

/-- the threshold applied is the named role's -/
theorem needs_role_threshold (C : CryptoFns) (name : PStr) (u t : J) (gpg : Bool) (h : verifyDelegationJ C name u t gpg = .ok ()) :
    ∃ d, roleOf t name = some d ∧ ∃ S : List PStr, S.Nodup ∧ thrOf d ≤ S.length ∧ ∀ k ∈ S, k ∈ keysOf d := by
  obtain ⟨_, _, _, d, hd, hm⟩ := (verifyDelegation_iff C name u t gpg).mp h
  exact ⟨d, hd, C01.threshold_needs_enough_authorized C gpg _ _ _ _ hm⟩

end CCT.C05
