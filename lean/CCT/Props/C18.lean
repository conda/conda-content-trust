import CCT.Lemmas.StepRun
import CCT.Lemmas.GpgPath
import CCT.Props.C11
/-!
# C18 — in-place signing is all-or-nothing with respect to failures  (partial: the OS is run, not modelled)

Model: `CCT/Model/SignSteps.lean`; the GPG signing path (`sign_root_metadata_via_gpg`): `Model/GpgSteps.lean`.  The correspondence check
enumerates, on the real code, a fault at every executed line before the output phase and compares the `open()` sequence and the file
bytes with what these theorems say.

The fault theorems are about `runSteps` on `signPlan file` (and, for the GPG path, about `runGpgSteps` on `gpgPlan`, which is what `runGpgSign` is).
`runSignRepo`, the model's entry point, runs exactly that plan once `artifactsOf` has succeeded on the loaded document (and when the file does not
load).  In its other branch — `artifactsOf` fails: a `packages` or `packages.conda` value that is not a dict — it runs the first five steps only, none of them an output
step, and then fails: that branch touches nothing by definition (`no_write_before_output` covers it).  Of the theorems below only
`success_writes_signed_document` is stated on `runSignRepo`.
-/
namespace CCT.C18
open CCT
open Classical

/-- a step outside the output phase never changes the file and never opens it for writing -/
theorem compute_step_preserves (C : CryptoFns) (key : J) (st st' : SignSt) (s : SignStep) (hs : s.isOutput = false)
    (h : execStep C key st s = .ok st') : st'.file = st.file ∧ (OpenEv.write ∈ st'.opens ↔ OpenEv.write ∈ st.opens) := by
  rw [execStep_ok] at h
  -- `st'` is `st` with some of `doc`, `sigs`, `out` set, or with a read appended to `opens`
  cases s with
  | openTrunc | write => cases hs
  | validate | openRead | checkPackages =>
    obtain ⟨_, rfl⟩ := h
    simp
  | parse | reset | finish =>
    obtain ⟨_, _, rfl⟩ := h
    simp
  | signOne | serialize =>
    cases h
    simp

/-- running any list of non-output steps, under any fault plan, leaves the file as it was and never opens it for writing -/
theorem no_write_before_output (C : CryptoFns) (key : J) (fault : Option Nat) :
    ∀ (steps : List SignStep) (i : Nat) (st : SignSt), (∀ s ∈ steps, s.isOutput = false) →
      (runSteps C key fault i steps st).2.file = st.file ∧
      (OpenEv.write ∈ (runSteps C key fault i steps st).2.opens ↔ OpenEv.write ∈ st.opens) := by
  intro steps i st hs
  rw [runSteps_eq_runPlan]
  refine runPlan_preserves _ (fun x => x.file = st.file ∧ (OpenEv.write ∈ x.opens ↔ OpenEv.write ∈ st.opens)) fault steps i st ?_ ⟨rfl, Iff.rfl⟩
  intro s hm a b hQ he
  have hp := compute_step_preserves C key a b s (hs s hm) he
  exact ⟨hp.1.trans hQ.1, hp.2.trans hQ.2⟩

/-- the compute phase of the plan: everything but the last two steps -/
def computePart (file : Option Bytes) : List SignStep := (signPlan file).dropLast.dropLast

theorem computePart_eq (file : Option Bytes) : computePart file =
    [SignStep.validate, .openRead, .parse, .checkPackages, .reset] ++ (planArts file).map (fun a => SignStep.signOne a.1 a.2) ++ [SignStep.finish, .serialize] := by
  simp [computePart, signPlan, List.dropLast_append_of_ne_nil, List.dropLast]

theorem signPlan_split (file : Option Bytes) : signPlan file = computePart file ++ [.openTrunc, .write] := by
  rw [computePart_eq]
  simp [signPlan]

theorem compute_end (C : CryptoFns) (key : J) (fault : Option Nat) (file : Option Bytes) :
    (runPlan (execStep C key) fault 0 (computePart file) (initSt file)).2.file = file ∧
    OpenEv.write ∉ (runPlan (execStep C key) fault 0 (computePart file) (initSt file)).2.opens := by
  have := no_write_before_output C key fault (computePart file) 0 (initSt file) <| by
    rw [computePart_eq, List.forall_mem_append, List.forall_mem_append, List.forall_mem_map]
    exact ⟨⟨by decide, fun _ _ => rfl⟩, by decide⟩
  rw [runSteps_eq_runPlan] at this
  exact ⟨this.1, fun hw => nomatch this.2.mp hw⟩

/-- **a failure at any step before the output phase — wherever it is injected — leaves the file on disk byte-identical and the file is
never opened for writing**, for every document, key and fault point -/
theorem fault_anywhere_before_output (C : CryptoFns) (key : J) (file : Option Bytes) (k : Nat) (hk : k < (computePart file).length) :
    (runSteps C key (some k) 0 (signPlan file) (initSt file)).2.file = file ∧
    OpenEv.write ∉ (runSteps C key (some k) 0 (signPlan file) (initSt file)).2.opens := by
  rw [signPlan_split, runSteps_eq_runPlan, runPlan_fault_le _ (Nat.zero_le k) (by omega)]
  exact compute_end C key (some k) file

/-- **the operating system refuses the output** (the file cannot be opened for writing: read-only, immutable, quota): the failure comes *instead of* the
first output step, after everything was computed and serialized — the file on disk is byte-identical and was never opened for writing -/
theorem refused_open_leaves_file (C : CryptoFns) (key : J) (file : Option Bytes) :
    (runSteps C key (some (computePart file).length) 0 (signPlan file) (initSt file)).2.file = file ∧
    OpenEv.write ∉ (runSteps C key (some (computePart file).length) 0 (signPlan file) (initSt file)).2.opens := by
  rw [signPlan_split, runSteps_eq_runPlan, runPlan_fault_le _ (Nat.zero_le _) (by omega)]
  exact compute_end C key _ file

/-- **any failure of the library itself (bad key, malformed input, missing file, …) leaves the file untouched** -/
theorem failure_leaves_file (C : CryptoFns) (key : J) (file : Option Bytes) (e : PyErr) (st : SignSt)
    (h : runSteps C key none 0 (signPlan file) (initSt file) = (.failed e, st)) : st.file = file := by
  -- the two output steps cannot fail, so the failure happened in the compute part, which preserves the file
  rw [signPlan_split, runSteps_eq_runPlan] at h
  have := (compute_end C key none file).1
  rwa [runPlan_failed_in_prefix _ (fun _ _ => rfl) h] at this

open CCT.C15 CCT.C11

theorem runPlan_signOnes (C : CryptoFns) (key : J) (arts : List (PStr × J)) : ∀ (rest : List SignStep) (i : Nat) (st : SignSt),
    runPlan (execStep C key) none i (arts.map (fun a => SignStep.signOne a.1 a.2) ++ rest) st =
      runPlan (execStep C key) none (i + arts.length) rest
        { st with sigs := arts.foldl (fun s a => dictSet s a.1 (artifactEntry C (unhex (strOf key)) a.2)) st.sigs } := by
  induction arts with
  | nil => exact fun _ _ _ => rfl
  | cons a r ih =>
    obtain ⟨n, md⟩ := a
    intro rest i st
    simp only [List.map_cons, List.cons_append, runPlan, reduceCtorEq, if_false, execStep, List.foldl_cons, List.length_cons]
    rw [ih rest (i + 1) _, Nat.add_right_comm, Nat.add_assoc]
    rfl

theorem signPlan_done (C : CryptoFns) (key : J) (file : Option Bytes) (st : SignSt)
    (h : runSteps C key none 0 (signPlan file) (initSt file) = (.done, st)) :
    ∃ top, loadFile file = .ok (.obj top) ∧ checkHexKeyJ key = .ok () ∧ dictHas (ps! "packages") top = true ∧
      st.file = some (ser (.obj (dictSet top (ps! "signatures")
        (.obj ((planArts file).foldl (fun s a => dictSet s a.1 (artifactEntry C (unhex (strOf key)) a.2)) []))))) ∧
      st.file = st.out ∧ st.opens = [.read, .write] := by
  rw [runSteps_eq_runPlan] at h
  -- a run that ends `.done` took every step of the plan with success: invert them one by one, in the plan's order
  simp only [signPlan, List.cons_append, List.nil_append, runPlan_done_cons, execStep_ok] at h
  obtain ⟨_, ⟨hk, rfl⟩, _, ⟨hf, rfl⟩, _, ⟨d, hl, rfl⟩, _, ⟨hp, rfl⟩, _, ⟨top, rfl, rfl⟩, h⟩ := h   -- validate, openRead, parse, checkPackages, reset
  simp only [runPlan_signOnes, runPlan_done_cons, execStep_ok] at h
  obtain ⟨_, ⟨_, e, rfl⟩, _, rfl, _, rfl, _, rfl, h⟩ := h                                         -- finish, serialize, openTrunc, write
  cases e
  cases h
  -- the empty "signatures" member that `reset` put in is overwritten by the one `finish` writes
  exact ⟨top, hl, hk, by simpa [pyInStr_obj] using hp, by simp only [dictSet_overwrite], rfl, rfl⟩

/-- **output is written only after every signature has been computed and the result serialized**: on success the file holds exactly the
serialized result and was opened once for reading and once, afterwards, for writing -/
theorem success_writes_once (C : CryptoFns) (key : J) (file : Option Bytes) (st : SignSt)
    (h : runSteps C key none 0 (signPlan file) (initSt file) = (.done, st)) :
    st.file = st.out ∧ st.opens = [.read, .write] :=
  have ⟨_, _, _, _, _, h⟩ := signPlan_done C key file st h
  h

theorem done_cons (C : CryptoFns) (key : J) (i : Nat) (s : SignStep) (r : List SignStep) (st fin : SignSt)
    (h : runSteps C key none i (s :: r) st = (.done, fin)) :
    ∃ st', execStep C key st s = .ok st' ∧ runSteps C key none (i + 1) r st' = (.done, fin) := by
  simpa only [runSteps_eq_runPlan, runPlan_done_cons] using h

theorem artifactsOf_ok {top arts : List (PStr × J)} (hp : dictHas (ps! "packages") top = true) (h : artifactsOf (.obj top) = .ok arts) :
    ∃ a a2, dictGet (ps! "packages") top = some (.obj a) ∧
      (dictGet (ps! "packages.conda") top = some (.obj a2) ∨ (dictGet (ps! "packages.conda") top = none ∧ a2 = [])) ∧ arts = a ++ a2 := by
  simp only [artifactsOf] at h
  split at h
  · split at h <;> cases h
    · exact ⟨_, [], ‹_›, Or.inr ⟨‹_›, rfl⟩, (List.append_nil _).symm⟩
    · exact ⟨_, _, ‹_›, Or.inl ‹_›, rfl⟩
  · cases h
  · simp [dictHas, *] at hp

/-- **what a successful run writes is exactly the canonical serialization of the value-level result** (`signRepodataJ`, characterised in C11):
the step machine (C18) and the value-level function (C11) describe the same computation -/
theorem success_writes_signed_document (C : CryptoFns) (key : J) (file : Option Bytes) (st : SignSt)
    (h : runSignRepo C key file none = (.done, st)) :
    ∃ doc doc', loadFile file = .ok doc ∧ signRepodataJ C doc key = .ok doc' ∧ st.file = some (ser doc') ∧ st.opens = [.read, .write] := by
  revert h
  fun_cases runSignRepo C key file none with
  | case1 => nofun                                                            -- malformed artifact sections: fails in the loop header
  | case2 _ _ _ _ _ hr => exact fun h => (hr (congrArg Prod.fst h)).elim     -- or in a step before it
  | case3 doc hl arts ha =>                                                   -- loads and has its artifacts: the plan is run
    intro h
    obtain ⟨top, hl', hk, hp, hf, _, ho⟩ := signPlan_done C key file st h
    cases hl.symm.trans hl'
    obtain ⟨ks, rfl, hks⟩ : ∃ ks, key = .str ks ∧ HexN 64 (.str ks) := by
      obtain ⟨s, rfl, hs⟩ := (checkHexKey_iff key).mp hk
      exact ⟨s, rfl, s, rfl, hs⟩
    obtain ⟨a, a2, h1, h2, rfl⟩ := artifactsOf_ok hp ha
    simp only [planArts, hl, ha] at hf
    exact ⟨_, _, hl, signRepo_ok C top ks hks a a2 h1 h2, hf, ho⟩
  | case4 e hl =>                                                             -- does not load, yet the plan ran through
    intro h
    obtain ⟨_, hl', _⟩ := signPlan_done C key file st h
    cases hl.symm.trans hl'

theorem gpg_compute_step_preserves (G : GpgBackend) (sslib : Bool) (fpr : J) (st st' : GpgSt) (s : GpgStep) (hs : s.isOutput = false)
    (h : execGpgStep G sslib fpr st s = .ok st') : st'.file = st.file ∧ (OpenEv.write ∈ st'.opens ↔ OpenEv.write ∈ st.opens) := by
  rw [execGpgStep_ok] at h
  cases s with
  | openTrunc | write => cases hs
  | openRead | checkDep | checkSignable =>
    obtain ⟨_, rfl⟩ := h
    simp
  | parse | callSigner | fetchKey =>
    obtain ⟨_, _, rfl⟩ := h
    simp
  | serializeSigned | attach =>
    obtain ⟨_, _, _, _, rfl⟩ := h
    simp
  | serialize =>
    cases h
    simp

def gpgCompute : List GpgStep := [.openRead, .parse, .checkDep, .checkSignable, .serializeSigned, .callSigner, .fetchKey, .attach, .serialize]

theorem gpg_compute_end (G : GpgBackend) (sslib : Bool) (fpr : J) (fault : Option Nat) (file : Option Bytes) :
    (runPlan (execGpgStep G sslib fpr) fault 0 gpgCompute (initGpgSt file)).2.file = file ∧
    OpenEv.write ∉ (runPlan (execGpgStep G sslib fpr) fault 0 gpgCompute (initGpgSt file)).2.opens := by
  have hno : ∀ s ∈ gpgCompute, s.isOutput = false := by decide
  refine runPlan_preserves _ (fun x => x.file = file ∧ OpenEv.write ∉ x.opens) fault gpgCompute 0 (initGpgSt file) ?_ ⟨rfl, fun hw => nomatch hw⟩
  intro s hm a b hQ he
  have hp := gpg_compute_step_preserves G sslib fpr a b s (hno s hm) he
  exact ⟨hp.1.trans hQ.1, fun hw => hQ.2 (hp.2.mp hw)⟩

/-- **GPG path: a failure at any step before the output phase leaves the file byte-identical and never opens it for writing** — whatever the
signer, the fingerprint, the file content and the fault point -/
theorem gpg_fault_anywhere_before_output (G : GpgBackend) (sslib : Bool) (fpr : J) (file : Option Bytes) (k : Nat) (hk : k < gpgCompute.length) :
    (runGpgSign G sslib fpr file (some k)).2.file = file ∧ OpenEv.write ∉ (runGpgSign G sslib fpr file (some k)).2.opens := by
  rw [runGpgSign, runGpgSteps_eq_runPlan, show gpgPlan = gpgCompute ++ [.openTrunc, .write] from rfl,
    runPlan_fault_le _ (Nat.zero_le k) (by omega)]
  exact gpg_compute_end G sslib fpr (some k) file

/-- **GPG path: any failure of the library, the signer or the optional dependency leaves the file untouched** -/
theorem gpg_failure_leaves_file (G : GpgBackend) (sslib : Bool) (fpr : J) (file : Option Bytes) (e : PyErr) (st : GpgSt)
    (h : runGpgSign G sslib fpr file none = (.failed e, st)) : st.file = file := by
  rw [runGpgSign, runGpgSteps_eq_runPlan, show gpgPlan = gpgCompute ++ [.openTrunc, .write] from rfl] at h
  have := (gpg_compute_end G sslib fpr none file).1
  rwa [runPlan_failed_in_prefix _ (fun _ _ => rfl) h] at this

/-- a run without fault that ends `done` has computed what the value-level function computes, whether the optional dependency is there or not -/
theorem gpgPlan_done (G : GpgBackend) (sslib : Bool) (fpr : J) (file : Option Bytes) (st : GpgSt)
    (h : runGpgSign G sslib fpr file none = (.done, st)) :
    ∃ b, signRootMdFileViaGpg G sslib file fpr = .ok b ∧ st.file = some b ∧ st.opens = [.read, .write] := by
  rw [runGpgSign, runGpgSteps_eq_runPlan] at h
  -- as in `signPlan_done`: the eleven steps of `gpgPlan` inverted in order
  simp only [gpgPlan, runPlan_done_cons, execGpgStep_ok] at h
  obtain ⟨_, ⟨hf, rfl⟩, _, ⟨env, hl, rfl⟩, _, ⟨rfl, rfl⟩, _, ⟨hs, rfl⟩, _, ⟨top, signed, rfl, hsg, rfl⟩, _, ⟨sg, hv, rfl⟩, _, ⟨q, hq, rfl⟩,
    _, ⟨_, entries, e, hss, rfl⟩, _, rfl, _, rfl, _, rfl, h⟩ := h
  cases e
  cases h
  refine ⟨_, ?_, rfl, rfl⟩
  simp only [signRootMdFileViaGpg, show loadFile file = _ from hl, signRootMdDictViaGpg_obj hs hsg hss hv hq, ok_bind, pure_eq_ok]

/-- **GPG path: what a successful run writes is exactly what the value-level function computes** (`signRootMdFileViaGpg`; its
dictionary part `signRootMdDictViaGpg` is characterised in C10), written once after everything has been computed and serialized: one open for reading, then one for writing -/
theorem gpg_success_writes_result (G : GpgBackend) (fpr : J) (file : Option Bytes) (st : GpgSt)
    (h : runGpgSign G true fpr file none = (.done, st)) :
    ∃ b, signRootMdFileViaGpg G true file fpr = .ok b ∧ st.file = some b ∧ st.opens = [.read, .write] :=
  gpgPlan_done G true fpr file st h

end CCT.C18
