import CCT.Lemmas.Rules
import CCT.Props.C01
/-!
# C03 — a root update is accepted iff version+1 and signed per the old and the new root rules

Model: `verifyRootJ` (`authentication.py:40-111`).
-/
namespace CCT.C03
open CCT CCT.C15
open Classical

/-- both are well-formed root-type metadata declaring a root rule, the offered version is exactly the trusted version plus one,
and the OpenPGP-mode signatures on the offered metadata meet the root rule of the trusted root and the root rule it declares itself -/
def SpecVerifyRoot (C : CryptoFns) (t u : J) : Prop :=
  IsRootMd t ∧ IsRootMd u ∧ versionOf u = versionOf t + 1 ∧ RuleMet C true (rootRule t) u ∧ RuleMet C true (rootRule u) u

theorem verifyRoot_iff (C : CryptoFns) (t u : J) : verifyRootJ C t u = .ok () ↔ SpecVerifyRoot C t u := by
  rw [verifyRoot_verdict]
  simp [SpecVerifyRoot, ite_error_eq_ok, ite_else_error_eq_ok, and_assoc, eq_comm (a := versionOf t + 1)]

/-- nothing the untrusted metadata says about itself substitutes for the trusted root's keys and threshold -/
theorem trusted_rule_needed (C : CryptoFns) (t u : J) (h : verifyRootJ C t u = .ok ()) :
    ∃ S : List PStr, S.Nodup ∧ thrOf (rootRule t) ≤ S.length ∧
      ∀ k ∈ S, k ∈ keysOf (rootRule t) ∧ ∃ sig, (k, sig) ∈ entriesOf u ∧ Counts C true (keysOf (rootRule t)) (ser (signedOf u)) k sig := by
  obtain ⟨_, _, _, ⟨S, hS, hl, hall⟩, _⟩ := (verifyRoot_iff C t u).mp h
  exact ⟨S, hS, hl, fun k hk => by obtain ⟨sig, hm, hc⟩ := hall k hk; exact ⟨hc.2.1, sig, hm, hc⟩⟩

/-- an accepted root also meets, with its own signatures, the root rule it declares itself -/
theorem own_rule_needed (C : CryptoFns) (t u : J) (h : verifyRootJ C t u = .ok ()) : RuleMet C true (rootRule u) u :=
  ((verifyRoot_iff C t u).mp h).2.2.2.2

/-- in OpenPGP mode, the mode `verify_root` runs both its checks in, only an OpenPGP-shaped signature counts -/
theorem root_signatures_are_gpg (C : CryptoFns) (d u : J) (k : PStr) (sig : J)
    (h : Counts C true (keysOf d) (ser (signedOf u)) k sig) : GpgShape sig := (counts_gpg.mp h).2.2.1

/-- a root-version mismatch between well-formed roots is a metadata-verification error -/
theorem version_mismatch_error (C : CryptoFns) (t u : J) (ht : IsRootMd t) (hu : IsRootMd u) (hv : versionOf u ≠ versionOf t + 1) :
    verifyRootJ C t u = .error .metadataVerification := by
  rw [verifyRoot_verdict, if_neg (not_not_intro ⟨ht, hu⟩), if_pos (fun e => hv e.symm)]

/-- insufficient signatures on a correctly versioned update are a signature error -/
theorem insufficient_error (C : CryptoFns) (t u : J) (ht : IsRootMd t) (hu : IsRootMd u) (hv : versionOf u = versionOf t + 1)
    (hm : ¬ (RuleMet C true (rootRule t) u ∧ RuleMet C true (rootRule u) u)) : verifyRootJ C t u = .error .signature := by
  rw [verifyRoot_verdict, if_neg (not_not_intro ⟨ht, hu⟩), if_neg (not_not_intro hv.symm), if_neg hm]

/-- anything that is not a pair of well-formed root metadata is an argument error -/
theorem malformed_error (C : CryptoFns) (t u : J) (h : ¬ (IsRootMd t ∧ IsRootMd u)) : verifyRootJ C t u = .error .arg := by
  rw [verifyRoot_verdict, if_pos h]

theorem verifyRoot_outcomes (C : CryptoFns) (t u : J) :
    verifyRootJ C t u = .ok () ∨ verifyRootJ C t u = .error .arg ∨ verifyRootJ C t u = .error .metadataVerification ∨
    verifyRootJ C t u = .error .signature := by
  by_cases h : IsRootMd t ∧ IsRootMd u
  · by_cases hv : versionOf u = versionOf t + 1
    · by_cases hm : RuleMet C true (rootRule t) u ∧ RuleMet C true (rootRule u) u
      · exact .inl ((verifyRoot_iff C t u).mpr ⟨h.1, h.2, hv, hm.1, hm.2⟩)
      · exact .inr (.inr (.inr (insufficient_error C t u h.1 h.2 hv hm)))
    · exact .inr (.inr (.inl (version_mismatch_error C t u h.1 h.2 hv)))
  · exact .inr (.inl (malformed_error C t u h))

end CCT.C03
