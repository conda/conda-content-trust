import CCT.Lemmas.ParseWF
import CCT.Lemmas.Canon
/-!
# C07 — canonical serialization: deterministic, order-independent, injective, frozen

`ser v = serRaw 0 (canon v)` is the model of `canonserialize` (`json.dumps(obj, indent=2, sort_keys=True)
.encode("utf-8")`), `parse` the model of `json.loads`.  `J.WF` is the value domain of the property: what a
parser of well-formed JSON text can return (code points < 0x110000, no high surrogate immediately followed
by a low one, distinct keys, canonical float tokens, integers below `10 ^ 4300` in absolute value: CPython's limit on `int` ↔ `str`
conversion, which the encoder and the decoder both run into).
-/
namespace CCT.C07
open CCT

/-- **parsing gives the value back**: the canonical bytes parse, and to the key-sorted form of the value -/
theorem parse_ser (v : J) (hv : v.WF) : parse (ser v) = some (canon v) :=
  parse_serRaw (canon v) (canon_wf v hv)

theorem ser_canon (v : J) (hv : v.WF) : ser (canon v) = ser v := by
  rw [ser, ser, canon_idem v hv]

/-- **fixpoint of parse-then-serialize** -/
theorem ser_fixpoint (v : J) (hv : v.WF) : (parse (ser v)).map ser = some (ser v) := by
  rw [parse_ser v hv, Option.map_some, ser_canon v hv]

/-- **injective**: two values with the same canonical bytes have the same key-sorted form (see `reorder_canon`:
each is then a mere re-ordering of object members of that common form, i.e. they are equal as JSON values) -/
theorem ser_injective (v w : J) (hv : v.WF) (hw : w.WF) (h : ser v = ser w) : canon v = canon w :=
  Option.some.inj ((parse_ser v hv).symm.trans (h ▸ parse_ser w hw))

mutual
/-- `Reorder v w`: `w` is `v` with the members of any objects, at any depth, listed in another order -/
def Reorder : J → J → Prop
  | .null, w => w = .null
  | .bool b, w => w = .bool b
  | .int z, w => w = .int z
  | .flt t, w => w = .flt t
  | .str s, w => w = .str s
  | .arr xs, w => ∃ ys, w = .arr ys ∧ ReorderL xs ys
  | .obj kvs, w => ∃ kvs' kvs'', w = .obj kvs'' ∧ ReorderM kvs kvs' ∧ kvs'.Perm kvs''
def ReorderL : List J → List J → Prop
  | [], ys => ys = []
  | x :: xs, ys => ∃ y ys', ys = y :: ys' ∧ Reorder x y ∧ ReorderL xs ys'
def ReorderM : List (PStr × J) → List (PStr × J) → Prop
  | [], l => l = []
  | (k, v) :: r, l => ∃ v' r', l = (k, v') :: r' ∧ Reorder v v' ∧ ReorderM r r'
end

mutual
theorem canon_reorder (v w : J) (hv : v.WF) (h : Reorder v w) : canon v = canon w := by
  match v with
  | .null | .bool _ | .int _ | .flt _ | .str _ =>
    cases h
    rfl
  | .arr xs =>
    obtain ⟨ys, rfl, hl⟩ := h
    rw [canon, canon, canonList_reorder xs ys hv hl]
  | .obj kvs =>
    obtain ⟨kvs', kvs'', rfl, hm, hp⟩ := h
    have ⟨e1, e2⟩ := canonMembers_reorder kvs kvs' hv.1 hm
    rw [canon, canon, e1]
    congr 1
    refine sortKV_congr_perm ?_ (by rw [canonMembers_keys, ← e2]; exact hv.2)
    rw [canonMembers_eq_map, canonMembers_eq_map]
    exact hp.map _
theorem canonList_reorder (xs ys : List J) (hx : WFs xs) (h : ReorderL xs ys) : canonList xs = canonList ys := by
  match xs with
  | [] =>
    cases h
    rfl
  | x :: r =>
    obtain ⟨y, ys', rfl, h1, h2⟩ := h
    rw [canonList, canonList, canon_reorder x y hx.1 h1, canonList_reorder r ys' hx.2 h2]
theorem canonMembers_reorder (l l' : List (PStr × J)) (hl : WFm l) (h : ReorderM l l') :
    canonMembers l = canonMembers l' ∧ l.map (·.1) = l'.map (·.1) := by
  match l with
  | [] =>
    cases h
    exact ⟨rfl, rfl⟩
  | (k, v) :: r =>
    obtain ⟨v', r', rfl, h1, h2⟩ := h
    have ⟨e1, e2⟩ := canonMembers_reorder r r' hl.2.2 h2
    exact ⟨by rw [canonMembers, canonMembers, canon_reorder v v' hl.2.1 h1, e1], by rw [List.map_cons, List.map_cons, e2]⟩
end

/-- **order-independent**: listing object members in any other order, at any depth, leaves the bytes unchanged -/
theorem ser_reorder (v w : J) (hv : v.WF) (h : Reorder v w) : ser v = ser w := by
  rw [ser, ser, canon_reorder v w hv h]

mutual
/-- every value is a member re-ordering of its canonical form -/
theorem reorder_canon (v : J) : Reorder v (canon v) := by
  match v with
  | .null | .bool _ | .int _ | .flt _ | .str _ => rfl
  | .arr xs => exact ⟨_, rfl, reorderL_canon xs⟩
  | .obj kvs => exact ⟨canonMembers kvs, _, rfl, reorderM_canon kvs, (sortKV_perm _).symm⟩
theorem reorderL_canon (xs : List J) : ReorderL xs (canonList xs) := by
  match xs with
  | [] => rfl
  | x :: r => exact ⟨_, _, rfl, reorder_canon x, reorderL_canon r⟩
theorem reorderM_canon (l : List (PStr × J)) : ReorderM l (canonMembers l) := by
  match l with
  | [] => rfl
  | (k, v) :: r => exact ⟨_, _, rfl, reorder_canon v, reorderM_canon r⟩
end

def Asc (b : Nat) : Prop := b = 10 ∨ (32 ≤ b ∧ b < 127)
def AllAsc (l : Txt) : Prop := ∀ b ∈ l, Asc b

instance (b : Nat) : Decidable (Asc b) := inferInstanceAs (Decidable (b = 10 ∨ (32 ≤ b ∧ b < 127)))
instance (l : Txt) : Decidable (AllAsc l) := inferInstanceAs (Decidable (∀ b ∈ l, Asc b))

theorem allAsc_cons {b : Nat} {l : Txt} : AllAsc (b :: l) ↔ Asc b ∧ AllAsc l := List.forall_mem_cons
theorem allAsc_append {a b : Txt} : AllAsc (a ++ b) ↔ AllAsc a ∧ AllAsc b := List.forall_mem_append

theorem asc_hexDigit : ∀ d < 16, Asc (hexDigit d) := by decide

theorem allAsc_uesc (n : Nat) : AllAsc (uesc n) := by
  have h := fun k => asc_hexDigit (k % 16) (Nat.mod_lt _ (by decide))
  simp only [uesc, hex4, allAsc_cons]
  exact ⟨by decide, by decide, h _, h _, h _, h _, by decide⟩

theorem allAsc_escChar (c : Nat) : AllAsc (escChar c) := by
  rcases cls c with ⟨e, _, h, hs⟩ | ⟨hc, _, _, h⟩ | ⟨_, _, h⟩ | ⟨_, h⟩ <;> rw [h]
  · have := simpleEsc_spec hs
    exact allAsc_cons.mpr ⟨by decide, allAsc_cons.mpr ⟨.inr ⟨this.1, this.2.1⟩, by decide⟩⟩
  · exact allAsc_cons.mpr ⟨.inr hc, by decide⟩
  · exact allAsc_uesc c
  · exact allAsc_append.mpr ⟨allAsc_uesc _, allAsc_uesc _⟩

theorem allAsc_serStr (s : PStr) : AllAsc (serStr s) := by
  have : AllAsc (escStr s) := by
    induction s with
    | nil => exact fun _ h => nomatch h
    | cons c r ih => exact allAsc_append.mpr ⟨allAsc_escChar c, ih⟩
  simp only [serStr, allAsc_cons, allAsc_append]
  exact ⟨by decide, this, by decide, by decide⟩

theorem asc_of_numChar {c : Nat} (h : isNumChar c = true) : Asc c := .inr (numChar_facts h).1

theorem allAsc_serInt (z : Int) : AllAsc (serInt z) := by
  have nat : ∀ n, AllAsc (serNat n) := fun n c hc => asc_of_numChar (isDigit_numChar (validNatTok_digits (serNat_spec n).1 c hc))
  cases z with
  | ofNat n => exact nat n
  | negSucc n => exact allAsc_cons.mpr ⟨by decide, nat _⟩

theorem allAsc_serFlt (t : Txt) (h : FltOK t) : AllAsc (serFlt t) := by
  rcases h with rfl | rfl | rfl | ⟨h1, _⟩
  · decide
  · decide
  · decide
  · rw [serFlt_ord t h1]
    exact fun c hc => asc_of_numChar (h1 c hc)

theorem allAsc_nl (n : Nat) : AllAsc (nl n) := by
  intro b hb
  rcases List.mem_cons.mp hb with rfl | hb
  · decide
  · cases List.eq_of_mem_replicate hb
    decide

mutual
theorem allAsc_serRaw (lvl : Nat) (v : J) (hv : v.WF) : AllAsc (serRaw lvl v) := by
  match v with
  | .null | .bool true | .bool false | .arr [] | .obj [] =>
    rw [serRaw]
    decide
  | .int z => exact allAsc_serInt z
  | .flt t => exact allAsc_serFlt t hv
  | .str s => exact allAsc_serStr s
  | .arr (x :: xs) =>
    simp only [serRaw, allAsc_cons, allAsc_append]
    exact ⟨by decide, allAsc_nl _, allAsc_serRaw _ x hv.1, allAsc_serElems lvl xs hv.2⟩
  | .obj ((k, v) :: kvs) =>
    simp only [serRaw, allAsc_cons, allAsc_append]
    exact ⟨by decide, allAsc_nl _, allAsc_serStr k, by decide, by decide, allAsc_serRaw _ v hv.1.2.1, allAsc_serMembers lvl kvs hv.1.2.2⟩
theorem allAsc_serElems (lvl : Nat) (xs : List J) (h : WFs xs) : AllAsc (serElems lvl xs) := by
  match xs with
  | [] => exact allAsc_append.mpr ⟨allAsc_nl _, by decide⟩
  | x :: r =>
    simp only [serElems, allAsc_cons, allAsc_append]
    exact ⟨by decide, allAsc_nl _, allAsc_serRaw _ x h.1, allAsc_serElems lvl r h.2⟩
theorem allAsc_serMembers (lvl : Nat) (kvs : List (PStr × J)) (h : WFm kvs) : AllAsc (serMembers lvl kvs) := by
  match kvs with
  | [] => exact allAsc_append.mpr ⟨allAsc_nl _, by decide⟩
  | (k, v) :: r =>
    simp only [serMembers, allAsc_cons, allAsc_append]
    exact ⟨by decide, allAsc_nl _, allAsc_serStr k, by decide, by decide, allAsc_serRaw _ v h.2.1, allAsc_serMembers lvl r h.2.2⟩
end

/-- **ASCII-escaped**: the serialization consists of newline and printable ASCII only, so its UTF-8 encoding is
the byte string with the same codes -/
theorem ser_ascii (v : J) (hv : v.WF) : ∀ b ∈ ser v, b = 10 ∨ (32 ≤ b ∧ b < 127) :=
  allAsc_serRaw 0 (canon v) (canon_wf v hv)

/-- **keys sorted**: in the value that is written out (`ser v = serRaw 0 (canon v)`) every object lists its members in strictly increasing
code-point order -/
theorem ser_sorted (v : J) (hv : v.WF) : (canon v).Sorted := canon_sorted v hv

-- the published format as equations: two-space indentation, ',' and ': ' separators, escapes
theorem fmt_empty_obj (lvl : Nat) : serRaw lvl (.obj []) = ps! "{}" := rfl
theorem fmt_empty_arr (lvl : Nat) : serRaw lvl (.arr []) = ps! "[]" := rfl
theorem fmt_obj (lvl : Nat) (k : PStr) (v : J) (r : List (PStr × J)) :
    serRaw lvl (.obj ((k, v) :: r)) =
      ps! "{" ++ (10 :: List.replicate (2 * (lvl + 1)) 32) ++ serStr k ++ ps! ": " ++ serRaw (lvl + 1) v ++ serMembers lvl r := by
  simp only [serRaw, nl, List.append_assoc, List.cons_append, List.nil_append]
theorem fmt_member (lvl : Nat) (k : PStr) (v : J) (r : List (PStr × J)) :
    serMembers lvl ((k, v) :: r) =
      ps! "," ++ (10 :: List.replicate (2 * (lvl + 1)) 32) ++ serStr k ++ ps! ": " ++ serRaw (lvl + 1) v ++ serMembers lvl r := by
  simp only [serMembers, nl, List.append_assoc, List.cons_append, List.nil_append]
theorem fmt_obj_close (lvl : Nat) : serMembers lvl [] = (10 :: List.replicate (2 * lvl) 32) ++ ps! "}" := rfl
theorem fmt_arr (lvl : Nat) (x : J) (r : List J) :
    serRaw lvl (.arr (x :: r)) = ps! "[" ++ (10 :: List.replicate (2 * (lvl + 1)) 32) ++ serRaw (lvl + 1) x ++ serElems lvl r := by
  simp only [serRaw, nl, List.append_assoc, List.cons_append, List.nil_append]
theorem fmt_elem (lvl : Nat) (x : J) (r : List J) :
    serElems lvl (x :: r) = ps! "," ++ (10 :: List.replicate (2 * (lvl + 1)) 32) ++ serRaw (lvl + 1) x ++ serElems lvl r := by
  simp only [serElems, nl, List.append_assoc, List.cons_append, List.nil_append]
theorem fmt_arr_close (lvl : Nat) : serElems lvl [] = (10 :: List.replicate (2 * lvl) 32) ++ ps! "]" := rfl
theorem fmt_escape_ascii (c : Nat) (h : 32 ≤ c ∧ c < 127) (h1 : c ≠ 34) (h2 : c ≠ 92) : escChar c = [c] := by
  rcases cls c with ⟨_, hc, _, _⟩ | ⟨_, _, _, e⟩ | ⟨hc, _, _⟩ | ⟨hc, _⟩
  · omega
  · exact e
  · exact absurd h hc
  · omega
theorem fmt_escape_bmp (c : Nat) (h : 127 ≤ c) (h2 : c < 0x10000) :
    escChar c = ps! "\\u" ++ [hexDigit (c / 4096 % 16), hexDigit (c / 256 % 16), hexDigit (c / 16 % 16), hexDigit (c % 16)] := by
  rcases cls c with ⟨_, hc, _, _⟩ | ⟨hc, _, _, _⟩ | ⟨_, _, e⟩ | ⟨hc, _⟩
  · omega
  · omega
  · exact e
  · omega
theorem fmt_escape_astral (c : Nat) (h : 0x10000 ≤ c) :
    escChar c = uesc (0xd800 + (c - 0x10000) / 1024) ++ uesc (0xdc00 + (c - 0x10000) % 1024) := by
  rcases cls c with ⟨_, hc, _, _⟩ | ⟨hc, _, _, _⟩ | ⟨_, hc, _⟩ | ⟨_, e⟩
  · omega
  · omega
  · omega
  · exact e

-- byte-for-byte examples from the published samples (tests/test_common.py) and the encoding cases it leaves as TODO
example : ser (.obj [(ps! "b", .str (ps! "v2")), (ps! "a", .str (ps! "v1"))]) = ps! "{\n  \"a\": \"v1\",\n  \"b\": \"v2\"\n}" := rfl
example : ser (.arr [.int 1, .int 2, .int 3]) = ps! "[\n  1,\n  2,\n  3\n]" := rfl
example : ser (.str [233, 0x1F600, 0xd800, 10]) = ps! "\"\\u00e9\\ud83d\\ude00\\ud800\\n\"" := rfl
example : ser (.arr [.flt (ps! "1e+22"), .flt (ps! "nan"), .flt (ps! "-inf"), .null, .bool true, .int (-20)])
    = ps! "[\n  1e+22,\n  NaN,\n  -Infinity,\n  null,\n  true,\n  -20\n]" := rfl
/-- why the value domain excludes an adjacent (high, low) surrogate pair: it prints like the astral character -/
example : ser (.str [0xd800, 0xdc00]) = ser (.str [0x10000]) := rfl
/-- the hypotheses are satisfiable by a non-trivial value -/
example : (J.obj [(ps! "b", .arr [.int 1, .flt (ps! "1.5")]), (ps! "a", .obj [([233], .null)])]).WF := by
  have hf : FltOK (ps! "1.5") := Or.inr (Or.inr (Or.inr ⟨by decide, rfl⟩))
  have hi : 1 < 10 ^ maxStrDigits := within_limit 1 (by decide) (by decide)
  simp [J.WF, WFm, WFs, StrOK, hf, hi]

/-- **CPython's integer conversion limit is part of the format's domain**: an integer literal of more than 4300 digits is rejected by the
parser (as `json.load` rejects it), so no loaded value contains such an integer; `J.WF` bounds integers accordingly -/
theorem long_integer_literal_rejected (r : Txt) (hv : validNatTok r = true) (hl : maxStrDigits < r.length) :
    parseNumTok r = none ∧ parseNumTok (45 :: r) = none :=
  ⟨by rw [parseNumTok_nat hv, if_neg (by omega)], by rw [parseNumTok_neg hv, if_neg (by omega)]⟩

mutual
theorem intsOK_of_wf : ∀ (v : J), v.WF → v.intsOK = true
  | .null, _ | .bool _, _ | .flt _, _ | .str _, _ => rfl
  | .int z, h => by simp only [J.WF] at h; simp [J.intsOK, h]
  | .arr xs, h => intsOKs_of_wf xs h
  | .obj kvs, h => intsOKm_of_wf kvs h.1
theorem intsOKs_of_wf : ∀ (xs : List J), WFs xs → intsOKs xs = true
  | [], _ => rfl
  | x :: xs, h => by rw [intsOKs, intsOK_of_wf x h.1, intsOKs_of_wf xs h.2]; rfl
theorem intsOKm_of_wf : ∀ (kvs : List (PStr × J)), WFm kvs → intsOKm kvs = true
  | [], _ => rfl
  | (_, v) :: kvs, h => by rw [intsOKm, intsOK_of_wf v h.2.1, intsOKm_of_wf kvs h.2.2]; rfl
end

/-- **the serializer is total on the format's domain**: on every well-formed value — in particular on everything that was loaded from a file
(`C08.loaded_is_wf`) — CPython's encoder does not refuse, and returns the bytes all the other theorems of this file speak about.  (That it does refuse an in-memory
integer of more than 4300 digits, alone or inside a list or a dict, is `serPy_refuses_huge_int`.) -/
theorem serPy_total_on_wf (v : J) (h : v.WF) : serPy v = some (ser v) := by
  simp [serPy, intsOK_of_wf v h]

theorem serPy_refuses_huge_int (z : Int) (h : 10 ^ maxStrDigits ≤ z.natAbs) : serPy (.int z) = none ∧ serPy (.arr [.int z]) = none ∧
    serPy (.obj [([97], .int z)]) = none := by
  have : ¬ z.natAbs < 10 ^ maxStrDigits := by omega
  simp [serPy, J.intsOK, intsOKs, intsOKm, this]

/-- whenever the encoder answers on a well-formed value, parsing the answer gives the (key-sorted) value back -/
theorem serPy_roundtrip (v : J) (h : v.WF) (b : Txt) (hb : serPy v = some b) : parse b = some (canon v) := by
  rw [serPy_total_on_wf v h] at hb
  cases hb
  exact parse_ser v h

/-- whatever the parser returns for text without surrogate code points (all strict UTF-8 decodes to such text) is a well-formed value,
and so round-trips: serializing and parsing it again gives its key-sorted form -/
theorem parsed_roundtrips (t : Txt) (v : J) (ht : AllOK t) (h : parse t = some v) : v.WF ∧ parse (ser v) = some (canon v) :=
  ⟨parse_wf ht h, parse_ser v (parse_wf ht h)⟩

end CCT.C07
