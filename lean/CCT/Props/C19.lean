import CCT.Model.Keys
import CCT.Props.C09
import CCT.Ref.Laws
/-!
# C19 — key material round-trips losslessly (the RFC 8032 part is differential: see the evidence)

Model: `CCT/Model/Keys.lean` (`common.py:167-273`).  "Equal to what RFC 8032 defines" cannot be a theorem here without the Edwards
group law; it is established by comparing the library with the Lean transcription of RFC 8032 §5.1 on generated seeds and the RFC's
own test vectors (partial, stated in the manifest).
-/
namespace CCT.C19
open CCT CCT.C15
open Classical

def IsSeed (s : Bytes) : Prop := s.length = 32 ∧ ∀ b ∈ s, b < 256

/-- bytes → object → bytes, private and public -/
theorem bytes_roundtrip (s : Bytes) (h : s.length = 32) :
    (privFromBytes (.bytes s)).bind privToBytes = .ok s ∧ (pubFromBytes (.bytes s)).bind pubToBytes = .ok s := by
  simp [privFromBytes, pubFromBytes, h, Except.bind, privToBytes, pubToBytes]

/-- on an accepted key string `from_hex` is `unhexlify` -/
theorem fromHex_ok (s : PStr) (h : HexN 64 (.str s)) :
    privFromHex (.j (.str s)) = .ok (.privkey (unhex s)) ∧ pubFromHex (.j (.str s)) = .ok (.pubkey (unhex s)) := by
  have hk := (checkHexKey_iff _).mpr h
  obtain ⟨_, e, h64, _⟩ := h
  cases e
  have hl : (unhex s).length = 32 := by rw [unhex_length s (by rw [h64]), h64]
  simp only [privFromHex, pubFromHex, hk, ok_bind, strOf_str, privFromBytes, pubFromBytes, hl, if_true, and_self]

/-- bytes → object → hex → object → bytes returns the same value, private and public -/
theorem hex_roundtrip (s : Bytes) (h : IsSeed s) :
    (do let k ← privFromBytes (.bytes s); let hx ← privToHex k; let k2 ← privFromHex (.j (.str hx)); privToBytes k2) = .ok s ∧
    (do let k ← pubFromBytes (.bytes s); let hx ← pubToHex k; let k2 ← pubFromHex (.j (.str hx)); pubToBytes k2) = .ok s := by
  obtain ⟨e1, e2⟩ := fromHex_ok _ (hexN_hexOfBytes h.1)
  rw [unhex_hexOfBytes s h.2] at e1 e2
  simp only [privFromBytes, pubFromBytes, h.1, if_true, privToHex, pubToHex, privToBytes, pubToBytes, ok_bind, pure_eq_ok, e1, e2, and_self]

/-- hex → object → hex is the identity on accepted key strings -/
theorem from_hex_to_hex (s : PStr) (h : HexN 64 (.str s)) :
    (privFromHex (.j (.str s))).bind privToHex = .ok s ∧ (pubFromHex (.j (.str s))).bind pubToHex = .ok s := by
  obtain ⟨e1, e2⟩ := fromHex_ok s h
  obtain ⟨_, e, h64, hall⟩ := h
  cases e
  simp only [e1, e2, Except.bind, privToHex, pubToHex, privToBytes, pubToBytes, ok_bind, pure_eq_ok, hexOfBytes_unhex s (by rw [h64]) hall, and_self]

/-- **malformed encodings are rejected**: wrong length, upper case, whitespace, non-str -/
theorem from_hex_rejects (v : J) (h : ¬ HexN 64 v) : privFromHex (.j v) = .error .arg ∧ pubFromHex (.j v) = .error .arg := by
  have : checkHexKeyJ v = .error .arg := by rw [checkHexKey_eq, if_neg h]
  simp [privFromHex, pubFromHex, this]

theorem from_bytes_rejects_length (b : Bytes) (h : b.length ≠ 32) :
    privFromBytes (.bytes b) = .error .arg ∧ pubFromBytes (.bytes b) = .error .arg := by
  simp [privFromBytes, pubFromBytes, h]

theorem from_bytes_rejects_kinds (v : PyVal) (h : ∀ b, v ≠ .bytes b ∧ v ≠ .bytearray b) :
    privFromBytes v = .error .arg ∧ pubFromBytes v = .error .arg := by
  cases v with
  | bytes b => exact absurd rfl (h b).1
  | bytearray b => exact absurd rfl (h b).2
  | _ => exact ⟨rfl, rfl⟩

/-- **equivalence** is reflexive, symmetric, false for different key bytes and false across kinds -/
theorem equivalence_laws (a b : Bytes) :
    privIsEquivalent (.privkey a) (.privkey a) = .ok true ∧ pubIsEquivalent (.pubkey a) (.pubkey a) = .ok true ∧
    privIsEquivalent (.privkey a) (.privkey b) = privIsEquivalent (.privkey b) (.privkey a) ∧
    pubIsEquivalent (.pubkey a) (.pubkey b) = pubIsEquivalent (.pubkey b) (.pubkey a) ∧
    (a ≠ b → privIsEquivalent (.privkey a) (.privkey b) = .ok false ∧ pubIsEquivalent (.pubkey a) (.pubkey b) = .ok false) ∧
    privIsEquivalent (.privkey a) (.pubkey b) = .ok false ∧ pubIsEquivalent (.pubkey a) (.privkey b) = .ok false := by
  have hp (x y : Bytes) : privIsEquivalent (.privkey x) (.privkey y) = .ok (x == y) := rfl
  have hq (x y : Bytes) : pubIsEquivalent (.pubkey x) (.pubkey y) = .ok (x == y) := rfl
  refine ⟨by rw [hp, beq_self_eq_true], by rw [hq, beq_self_eq_true], by rw [hp, hp, BEq.comm], by rw [hq, hq, BEq.comm],
    fun h => ?_, rfl, rfl⟩
  rw [hp, hq, beq_eq_false_iff_ne.mpr h]
  exact ⟨rfl, rfl⟩

/-- the hex under which `sign_signable` files its entry is the hex of the public key derived from the signing key -/
theorem signing_key_hex (C : CryptoFns) (seed : Bytes) :
    (publicOf C (.privkey seed)).bind pubToHex = .ok (C09.pubHex C seed) := rfl

/-- `gen_and_write_keys(fname)` (`metadata_construction.py:167-190`) for the seed the OS generator produced: the key objects and the two
files' contents (`fname.pri`, `fname.pub`) -/
def genAndWriteKeys (C : CryptoFns) (seed : Bytes) : Res ((PyVal × PyVal) × (Bytes × Bytes)) := do
  let priv := PyVal.privkey seed
  let pub ← publicOf C priv
  let pb ← privToBytes priv
  let qb ← pubToBytes pub
  pure ((priv, pub), (pb, qb))

/-- `keyfiles_to_keys(name)` (`common.py:849-882`) on the two files' contents -/
def keyfilesToKeys (pri pub : Bytes) : Res (PyVal × PyVal) := do
  let a ← privFromBytes (.bytes pri)
  let b ← pubFromBytes (.bytes pub)
  pure (a, b)

/-- **keys written to key files load back as equivalent keys** — in fact as the same keys — and the files hold exactly the 32 raw bytes -/
theorem keyfiles_roundtrip (C : Crypto) (seed : Bytes) (hs : seed.length = 32) :
    ∃ priv pub pri pubf, genAndWriteKeys C.toCryptoFns seed = .ok ((priv, pub), (pri, pubf)) ∧ pri = seed ∧ pubf = C.pubOf seed ∧
      keyfilesToKeys pri pubf = .ok (priv, pub) ∧
      privIsEquivalent priv priv = .ok true ∧ pubIsEquivalent pub pub = .ok true := by
  refine ⟨.privkey seed, .pubkey (C.pubOf seed), seed, C.pubOf seed, rfl, rfl, rfl, ?_, (equivalence_laws seed seed).1,
    (equivalence_laws (C.pubOf seed) seed).2.1⟩
  simp [keyfilesToKeys, privFromBytes, pubFromBytes, hs, C.pub_len seed hs]

/-- key files of any other length are rejected when loaded -/
theorem keyfiles_reject_length (pri pub : Bytes) (h : pri.length ≠ 32 ∨ pub.length ≠ 32) : keyfilesToKeys pri pub = .error .arg := by
  by_cases h1 : pri.length = 32
  · simp [keyfilesToKeys, privFromBytes, h1, (from_bytes_rejects_length pub (h.resolve_left (not_not_intro h1))).2]
  · simp [keyfilesToKeys, (from_bytes_rejects_length pri h1).1]

/-- the Lean transcription of RFC 8032 that the driver runs satisfies the four *shape* laws of `Crypto` (64-byte signatures, 32-byte public
keys, all bytes); its correctness law — the only other thing the theorems assume of the primitive — is compared with OpenSSL, not proved -/
theorem reference_shape_laws :
    (∀ s m, (Ref.refCrypto.sign s m).length = 64) ∧ (∀ s m, ∀ b ∈ Ref.refCrypto.sign s m, b < 256) ∧
    (∀ s, (Ref.refCrypto.pubOf s).length = 32) ∧ (∀ s, ∀ b ∈ Ref.refCrypto.pubOf s, b < 256) :=
  ⟨Ref.ref_sign_len, Ref.ref_sign_byte, Ref.ref_pub_len, Ref.ref_pub_byte⟩

/-- the reference verification is strict where RFC 8032 is: only 32-byte keys and 64-byte signatures, and never a signature whose scalar is not reduced
below the group order (no second encoding of a valid signature) -/
theorem reference_strict (pub msg sig : Ref.B8) :
    (Ref.verify pub msg sig = true → pub.length = 32 ∧ sig.length = 64) ∧ (Ref.L ≤ Ref.leNat (sig.drop 32) → Ref.verify pub msg sig = false) :=
  ⟨Ref.ref_verify_lengths pub msg sig, Ref.ref_verify_rejects_unreduced_scalar pub msg sig⟩

end CCT.C19
