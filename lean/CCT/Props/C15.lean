import CCT.Lemmas.Hex
/-!
# C15 — leaf format validators decide exact grammars; one spelling per key

Every theorem is about the executable model of `common.py:286-643, 837-846` (`CCT/Model/Common.lean`),
for *every* JSON value.  `LowerHex s` is the grammar "non-empty, even length, only `0-9a-f`".

Each validator is first put in closed form (`check…_eq : check… v = if Grammar v then .ok () else .error .arg`);
acceptance (`…_iff`), the predicate forms (`is…_eq`) and "nothing but an argument error" are read off it.
-/
namespace CCT.C15
open CCT
open Classical

def HexN (n : Nat) (v : J) : Prop := ∃ s, v = .str s ∧ s.length = n ∧ ∀ c ∈ s, isLowerHexDigit c = true

def HexStr (v : J) : Prop := ∃ s, v = .str s ∧ LowerHex s

theorem hexN_hexOfBytes {b : Bytes} {n : Nat} (h : b.length = n) : HexN (2 * n) (.str (hexOfBytes b)) :=
  ⟨_, rfl, by rw [hexOfBytes_length, h], hexOfBytes_lower b⟩

theorem pyLenJ_str (s : PStr) : pyLenJ (.str s) = .ok s.length := rfl

theorem hexN_str {n : Nat} (hn : 0 < n) (he : n % 2 = 0) (s : PStr) : HexN n (.str s) ↔ LowerHex s ∧ s.length = n := by
  constructor
  · rintro ⟨_, ⟨⟩, rfl, hall⟩
    exact ⟨⟨List.ne_nil_of_length_pos hn, he, hall⟩, rfl⟩
  · rintro ⟨⟨_, _, hall⟩, hl⟩; exact ⟨s, rfl, hl, hall⟩

theorem hexStr_str (s : PStr) : HexStr (.str s) ↔ LowerHex s := by simp [HexStr]

theorem hexN_hexStr {n : Nat} {v : J} (hn : 0 < n) (he : n % 2 = 0) (h : HexN n v) : HexStr v := by
  obtain ⟨s, rfl, h⟩ := h
  exact ⟨s, rfl, ((hexN_str hn he s).mp ⟨s, rfl, h⟩).1⟩

theorem checkHexString_eq (v : J) : checkHexStringJ v = if HexStr v then .ok () else .error .arg := by
  cases v with
  | str s => rw [checkHexStringJ_str]; exact ite_cond_congr (propext (hexStr_str s).symm)
  | _ => exact (if_neg (by rintro ⟨_, ⟨⟩, _⟩)).symm

/-- `checkformat_hex_string` accepts exactly the grammar -/
theorem checkHexString_iff (v : J) : checkHexStringJ v = .ok () ↔ HexStr v := by
  rw [checkHexString_eq]; exact ok_iff

theorem isHexString_eq (v : J) : isHexStringJ v = .ok (decide (HexStr v)) := by
  rw [isHexStringJ, checkHexString_eq, predOf_ite]

/-- `len(x)` raises nothing but a `TypeError` -/
theorem pyLenJ_bind_error (v : J) : (pyLenJ v >>= fun _ => (.error .arg : Res Unit)) = .error .arg := by
  cases v <;> rfl

/-- hex string first, length second (`checkformat_hex_key`), the other way round (`checkformat_gpg_fingerprint`), or as predicates
(`is_hex_signature`): each time exactly `HexN n` is accepted -/
theorem hexN_tests {n : Nat} (hn : 0 < n) (he : n % 2 = 0) (v : J) :
    (do checkHexStringJ v; let m ← pyLenJ v; if m ≠ n then .error .arg else okU) = (if HexN n v then .ok () else .error .arg) ∧
    (do let m ← pyLenJ v; if m ≠ n then .error .arg else checkHexStringJ v) = (if HexN n v then .ok () else .error .arg) ∧
    (do if (← isHexStringJ v) then do let m ← pyLenJ v; pure (m == n) else pure false) = .ok (decide (HexN n v)) := by
  rw [isHexString_eq, checkHexString_eq]
  by_cases h : HexStr v
  · obtain ⟨s, rfl, hl⟩ := h
    simp [hexStr_str, hl, pyLenJ_str, hexN_str hn he, Bool.beq_eq_decide_eq]
  · have h' : ¬ HexN n v := fun h' => h (hexN_hexStr hn he h')
    simp only [h, h', if_false, error_bind, ok_bind, ite_self, pyLenJ_bind_error, and_self, decide_false, Bool.false_eq_true, pure_eq_ok]

theorem checkHexKey_eq (v : J) : checkHexKeyJ v = if HexN 64 v then .ok () else .error .arg :=
  (hexN_tests (by decide) (by decide) v).1

/-- `checkformat_hex_key` accepts exactly 64 lowercase hexadecimal characters -/
theorem checkHexKey_iff (v : J) : checkHexKeyJ v = .ok () ↔ HexN 64 v := by
  rw [checkHexKey_eq]; exact ok_iff

theorem isHexKey_eq (v : J) : isHexKeyJ v = .ok (decide (HexN 64 v)) := by
  rw [isHexKeyJ, checkHexKey_eq, predOf_ite]

/-- `is_hex_signature` is true exactly on 128 lowercase hexadecimal characters (and never raises) -/
theorem isHexSignature_eq (v : J) : isHexSignatureJ v = .ok (decide (HexN 128 v)) :=
  (hexN_tests (n := 128) (by decide) (by decide) v).2.2

/-- `checkformat_gpg_fingerprint` is the length test followed by the body of `checkformat_hex_string` -/
theorem checkGpgFingerprintJ_def (v : J) :
    checkGpgFingerprintJ v = (do let n ← pyLenJ v; if n ≠ 40 then .error .arg else checkHexStringJ v) := by
  cases v <;> rfl

theorem checkGpgFingerprint_eq (v : J) : checkGpgFingerprintJ v = if HexN 40 v then .ok () else .error .arg :=
  (checkGpgFingerprintJ_def v).trans (hexN_tests (by decide) (by decide) v).2.1

/-- `checkformat_gpg_fingerprint` accepts exactly 40 lowercase hexadecimal characters -/
theorem checkGpgFingerprint_iff (v : J) : checkGpgFingerprintJ v = .ok () ↔ HexN 40 v := by
  rw [checkGpgFingerprint_eq]; exact ok_iff

theorem isGpgFingerprint_eq (v : J) : isGpgFingerprintJ v = .ok (decide (HexN 40 v)) := by
  rw [isGpgFingerprintJ, checkGpgFingerprint_eq, predOf_ite]

/-- the OpenPGP shape: exactly the fields `other_headers`, `signature` and optionally `see_also`, each of its grammar -/
def GpgShape (v : J) : Prop :=
  ∃ kvs, v = .obj kvs ∧
    (keysAre kvs [ps! "other_headers", ps! "signature"] = true ∨
     keysAre kvs [ps! "other_headers", ps! "see_also", ps! "signature"] = true) ∧
    (∃ h, dictGet (ps! "other_headers") kvs = some h ∧ HexStr h) ∧
    (∃ g, dictGet (ps! "signature") kvs = some g ∧ HexN 128 g) ∧
    (∀ f, dictGet (ps! "see_also") kvs = some f → HexN 40 f)

/-- the raw shape: exactly one field `signature` holding 128 lowercase hex characters -/
def RawShape (v : J) : Prop :=
  ∃ kvs, v = .obj kvs ∧ kvs.length = 1 ∧ ∃ g, dictGet (ps! "signature") kvs = some g ∧ HexN 128 g

theorem dictIndex_eq (k : PStr) (kvs : List (PStr × J)) :
    dictIndex k kvs = match dictGet k kvs with | some v => .ok v | none => .error .key := rfl

theorem checkGpgSignature_eq (v : J) : checkGpgSignatureJ v = if GpgShape v then .ok () else .error .arg := by
  cases v with
  | obj kvs =>
    simp only [checkGpgSignatureJ, ite_not_bool, Bool.or_eq_true]
    refine first_test (fun hk => ?_) (fun hk ⟨_, e, h, _⟩ => by cases e; exact hk h)
    -- either key set holds the two mandatory fields, so the subscripts succeed; then each test of the code is a clause of `GpgShape`
    obtain ⟨oh, hoh⟩ : ∃ x, dictGet (ps! "other_headers") kvs = some x := by
      rcases hk with h | h <;> exact dictGet_of_keysAre h (by decide)
    obtain ⟨sg, hsg⟩ : ∃ x, dictGet (ps! "signature") kvs = some x := by
      rcases hk with h | h <;> exact dictGet_of_keysAre h (by decide)
    simp only [dictIndex_some hoh, dictIndex_some hsg, ok_bind, isHexString_eq, isHexSignature_eq, decide_eq_true_eq, okU_eq,
      optField_eq _ _ checkGpgFingerprint_eq, ite_ite_and]
    exact ite_cond_congr (propext (by simp only [GpgShape, J.obj.injEq, exists_eq_left', hk, hoh, hsg, Option.some.injEq, true_and]))
  | _ => exact (if_neg (by rintro ⟨_, ⟨⟩, _⟩)).symm

/-- `checkformat_gpg_signature` accepts exactly the OpenPGP shape -/
theorem checkGpgSignature_iff (v : J) : checkGpgSignatureJ v = .ok () ↔ GpgShape v := by
  rw [checkGpgSignature_eq]; exact ok_iff

theorem isGpgSignature_eq (v : J) : isGpgSignatureJ v = .ok (decide (GpgShape v)) := by
  rw [isGpgSignatureJ, checkGpgSignature_eq, predOf_ite]

theorem shape_signature {sig : J} (h : RawShape sig ∨ GpgShape sig) :
    ∃ kvs sg, sig = .obj kvs ∧ dictGet (ps! "signature") kvs = some sg ∧ HexN 128 sg := by
  rcases h with ⟨kvs, rfl, _, sg, h⟩ | ⟨kvs, rfl, _, _, ⟨sg, h⟩, _⟩ <;> exact ⟨kvs, sg, rfl, h⟩

theorem checkSignature_eq (v : J) : checkSignatureJ v = if RawShape v ∨ GpgShape v then .ok () else .error .arg := by
  cases v with
  | obj kvs =>
    -- the first test asks for the `signature` field that both shapes carry (`shape_signature`); the second tells the shapes apart
    simp only [checkSignatureJ, reqField_eq _ _ isHexSignature_eq, isGpgSignature_eq, ok_bind, ite_not_bool, okU_eq, decide_eq_true_eq,
      beq_iff_eq, ite_ite_or, ite_ite_and]
    refine ite_cond_congr (propext ⟨fun ⟨hs, h⟩ => h.imp (fun hl => ⟨kvs, rfl, hl, hs⟩) id, fun h => ?_⟩)
    obtain ⟨_, g, ⟨⟩, hg⟩ := shape_signature h
    exact ⟨⟨g, hg⟩, h.imp (fun ⟨_, e, hl, _⟩ => by cases e; exact hl) id⟩
  | _ => exact (if_neg (by rintro (⟨_, ⟨⟩, _⟩ | ⟨_, ⟨⟩, _⟩))).symm

/-- `checkformat_signature` accepts exactly the raw or the OpenPGP shape -/
theorem checkSignature_iff (v : J) : checkSignatureJ v = .ok () ↔ RawShape v ∨ GpgShape v := by
  rw [checkSignature_eq]; exact ok_iff

theorem isSignature_eq (v : J) : isSignatureJ v = .ok (decide (RawShape v ∨ GpgShape v)) := by
  rw [isSignatureJ, checkSignature_eq, predOf_ite]

/-- each of the five predicates that have a raising form (`is_hex_string`, `is_hex_key`, `is_gpg_fingerprint`, `is_gpg_signature`,
`is_signature`) is true exactly when its raiser returns normally; and these five and `is_hex_signature`, which has no raising form, never
raise, on any input -/
theorem pred_agrees (v : J) :
    (isHexStringJ v = .ok true ↔ checkHexStringJ v = .ok ()) ∧
    (isHexKeyJ v = .ok true ↔ checkHexKeyJ v = .ok ()) ∧
    (isGpgFingerprintJ v = .ok true ↔ checkGpgFingerprintJ v = .ok ()) ∧
    (isGpgSignatureJ v = .ok true ↔ checkGpgSignatureJ v = .ok ()) ∧
    (isSignatureJ v = .ok true ↔ checkSignatureJ v = .ok ()) ∧
    (∃ b, isHexStringJ v = .ok b) ∧ (∃ b, isHexKeyJ v = .ok b) ∧ (∃ b, isHexSignatureJ v = .ok b) ∧
    (∃ b, isGpgFingerprintJ v = .ok b) ∧ (∃ b, isGpgSignatureJ v = .ok b) ∧ (∃ b, isSignatureJ v = .ok b) := by
  exact ⟨predOf_eq_true, predOf_eq_true, predOf_eq_true, predOf_eq_true, predOf_eq_true, ⟨_, isHexString_eq v⟩, ⟨_, isHexKey_eq v⟩,
    ⟨_, isHexSignature_eq v⟩, ⟨_, isGpgFingerprint_eq v⟩, ⟨_, isGpgSignature_eq v⟩, ⟨_, isSignature_eq v⟩⟩

theorem unhex_inj_on_keys {a b : PStr} (ha : HexN 64 (.str a)) (hb : HexN 64 (.str b)) (h : unhex a = unhex b) : a = b :=
  unhex_injective a b ((hexN_str (by decide) (by decide) a).mp ha).1 ((hexN_str (by decide) (by decide) b).mp hb).1 h

/-- distinct accepted key strings always denote distinct key bytes -/
theorem distinct_keys_distinct_bytes (a b : J) (ha : checkHexKeyJ a = .ok ()) (hb : checkHexKeyJ b = .ok ())
    (h : unhex (strOf a) = unhex (strOf b)) : a = b := by
  rw [checkHexKey_iff] at ha hb
  obtain ⟨s, rfl, _⟩ := id ha
  obtain ⟨t, rfl, _⟩ := id hb
  rw [unhex_inj_on_keys ha hb h]

theorem nodup_unhex {S : List PStr} (hS : S.Nodup) (h : ∀ k ∈ S, HexN 64 (.str k)) : (S.map unhex).Nodup :=
  nodup_map_on (fun a ha b hb => unhex_inj_on_keys (h a ha) (h b hb)) hS

theorem checkKeysLoop_eq (ks : List J) : checkKeysLoop ks = if ∀ k ∈ ks, HexN 64 k then .ok () else .error .arg :=
  loop_eq rfl (fun _ _ => rfl) checkHexKey_eq ks

theorem hasDupStr_iff (l : List PStr) : hasDupStr l = true ↔ ¬ l.Nodup := by
  induction l with
  | nil => simp [hasDupStr]
  | cons x r ih => simp [hasDupStr, ih, Classical.or_iff_not_imp_left]

theorem checkListOfHexKeys_arr (ks : List J) :
    checkListOfHexKeysJ (.arr ks) = if (∀ k ∈ ks, HexN 64 k) ∧ (ks.map strOf).Nodup then .ok () else .error .arg := by
  simp only [checkListOfHexKeysJ, checkKeysLoop_eq, ite_bind, okU_eq, hasDupStr_iff, ite_not, ite_ite_and]

/-- a key list accepted as duplicate-free contains no key twice under any spelling: the decoded byte strings are pairwise distinct -/
theorem keylist_nodup_bytes (ks : List J) (h : checkListOfHexKeysJ (.arr ks) = .ok ()) :
    ((ks.map strOf).map unhex).Nodup := by
  obtain ⟨hall, hnd⟩ := ok_iff.mp (checkListOfHexKeys_arr ks ▸ h)
  refine nodup_unhex hnd fun k hk => ?_
  obtain ⟨j, hj, rfl⟩ := List.mem_map.mp hk
  obtain ⟨s, rfl, hs⟩ := hall j hj
  exact ⟨s, rfl, hs⟩

example : HexN 64 (.str (List.replicate 64 97)) := ⟨_, rfl, List.length_replicate, fun _ hc => List.eq_of_mem_replicate hc ▸ rfl⟩
example : checkHexKeyJ (.str (List.replicate 64 97)) = .ok () := by decide
example : checkHexKeyJ (.str (List.replicate 64 65)) = .error .arg := by decide        -- upper case
example : checkHexKeyJ (.str (32 :: List.replicate 63 97)) = .error .arg := by decide  -- whitespace instead of a digit
example : checkSignatureJ (.obj [(ps! "signature", .str (List.replicate 128 48))]) = .ok () := by decide +kernel

end CCT.C15
