import CCT.Lemmas.VerifySignable
import CCT.Model.Diagnostics
/-!
# C01 — threshold soundness: no acceptance without enough valid authorized signers

Model: `verifySignableJ` (`authentication.py:301-464`).  `Counts` (CCT/Lemmas/Threshold.lean) is the declarative
"this entry contributes"; `ThresholdMet` says `thr` *distinct* keys each have a counting entry filed under them.
All statements hold for every `CryptoFns` (no assumption on the signature scheme) and every JSON value.
-/
namespace CCT.C01
open CCT CCT.C15
open Classical

/-- **soundness**: acceptance implies that the arguments are well typed and that at least `threshold` distinct authorized keys
each have, filed under their own canonical key string, an entry of the mode's shape whose signature verifies over the canonical
bytes of exactly the payload presented -/
theorem verifySignable_sound (C : CryptoFns) (env keys thr : J) (gpg : Bool) (h : verifySignableJ C env keys thr gpg = .ok ()) :
    ∃ entries signed ks t, EnvParts env entries signed ∧ keys = .arr ks ∧ (∀ k ∈ ks, HexN 64 k) ∧ asInt thr = some t ∧ 0 < t ∧
      ThresholdMet C gpg (ks.map strOf) (ser signed) entries t.toNat := by
  rw [verifySignable_verdict, ite_else_error_eq_ok, ite_else_error_eq_ok] at h
  obtain ⟨⟨hs, ⟨ks, rfl, hk⟩, t, ht, hpos⟩, hm, _⟩ := h
  exact ⟨_, _, ks, t, envParts_self hs, rfl, hk, ht, hpos, by rwa [thrNat, ht] at hm⟩

/-- the only outcomes: accept, argument error, signature error -/
theorem verifySignable_outcomes (C : CryptoFns) (env keys thr : J) (gpg : Bool) :
    verifySignableJ C env keys thr gpg = .ok () ∨ verifySignableJ C env keys thr gpg = .error .arg ∨
    verifySignableJ C env keys thr gpg = .error .signature := by
  rw [verifySignable_verdict]
  split
  · split
    · exact .inl rfl
    · exact .inr (.inr rfl)
  · exact .inr (.inl rfl)

/-- signatures by unauthorized keys never contribute -/
theorem unauthorized_never_counts (C : CryptoFns) (gpg : Bool) (auth : List PStr) (data : Bytes) (k : PStr) (sig : J)
    (h : k ∉ auth) : ¬ Counts C gpg auth data k sig := fun hc => h hc.2.1

/-- alternative spellings of a key (upper case, whitespace, prefixes, non-ASCII digits, wrong length) never contribute -/
theorem alternative_spelling_never_counts (C : CryptoFns) (gpg : Bool) (auth : List PStr) (data : Bytes) (k : PStr) (sig : J)
    (h : ¬ HexN 64 (.str k)) : ¬ Counts C gpg auth data k sig := fun hc => h hc.1

/-- malformed entries never contribute -/
theorem malformed_never_counts (C : CryptoFns) (gpg : Bool) (auth : List PStr) (data : Bytes) (k : PStr) (sig : J)
    (h : ¬ (RawShape sig ∨ GpgShape sig)) : ¬ Counts C gpg auth data k sig := by
  cases gpg with
  | true => exact fun hc => h (.inr (counts_gpg.mp hc).2.2.1)
  | false => exact fun hc => h (counts_raw.mp hc).2.2.1

/-- in OpenPGP mode a raw-shaped entry never contributes, however valid its signature is over the payload -/
theorem raw_entry_never_counts_in_gpg_mode (C : CryptoFns) (auth : List PStr) (data : Bytes) (k : PStr) (sig : J)
    (h : ¬ GpgShape sig) : ¬ Counts C true auth data k sig := fun hc => h (counts_gpg.mp hc).2.2.1

/-- corrupted signatures, signatures over any other payload and mis-filed entries never contribute: in raw mode an entry counts only if the
primitive accepts its signature bytes under *the key it is filed under* for *the bytes of the presented payload* -/
theorem invalid_never_counts (C : CryptoFns) (auth : List PStr) (data : Bytes) (k : PStr) (sig : J)
    (h : C.verify (unhex k) data (unhex (strOf (entryField (ps! "signature") sig))) = false) : ¬ Counts C false auth data k sig :=
  fun hc => Bool.false_ne_true (h ▸ (counts_raw.mp hc).2.2.2)

theorem invalid_never_counts_gpg (C : CryptoFns) (auth : List PStr) (data : Bytes) (k : PStr) (sig : J)
    (h : C.verify (unhex k) (gpgDigest C data (unhex (strOf (entryField (ps! "other_headers") sig))))
       (unhex (strOf (entryField (ps! "signature") sig))) = false) : ¬ Counts C true auth data k sig :=
  fun hc => Bool.false_ne_true (h ▸ (counts_gpg.mp hc).2.2.2)

/-- a standard output changes the answer of `verify_signable` in one way only: a failing one may turn it into the error of the `print` -/
theorem under_cases (C : CryptoFns) (st : Stdout) (env keys thr : J) (gpg : Bool) :
    verifySignableUnder C st env keys thr gpg = verifySignableJ C env keys thr gpg ∨
    st = .failing ∧ verifySignableUnder C st env keys thr gpg = .error .os := by
  fun_cases verifySignableUnder C st env keys thr gpg with
  | case1 h => exact .inl h.symm       -- failing; an argument error anyway
  | case2 => exact .inr ⟨rfl, rfl⟩      -- failing; a note is printed
  | _ => exact .inl rfl

/-- **soundness does not depend on a diagnostic having been printed**: whatever standard output does — takes text, fails on every write, is absent — an
envelope accepted under it is accepted by `verify_signable` proper (and so has threshold-many valid authorized signers: `verifySignable_sound`) -/
theorem sound_under_any_stdout (C : CryptoFns) (st : Stdout) (env keys thr : J) (gpg : Bool)
    (h : verifySignableUnder C st env keys thr gpg = .ok ()) : verifySignableJ C env keys thr gpg = .ok () := by
  rcases under_cases C st env keys thr gpg with e | ⟨_, e⟩
  · exact e ▸ h
  · rw [e] at h; cases h

theorem absent_stdout_same_verdict (C : CryptoFns) (env keys thr : J) (gpg : Bool) :
    verifySignableUnder C .absent env keys thr gpg = verifySignableJ C env keys thr gpg :=
  (under_cases C .absent env keys thr gpg).resolve_right nofun

/-- on a failing standard output a call either gives its usual answer or fails with the error of the `print` -/
theorem failing_stdout_outcomes (C : CryptoFns) (env keys thr : J) (gpg : Bool) :
    verifySignableUnder C .failing env keys thr gpg = verifySignableJ C env keys thr gpg ∨ verifySignableUnder C .failing env keys thr gpg = .error .os :=
  (under_cases C .failing env keys thr gpg).imp_right And.right

/-- **the model's per-entry case split agrees with the declarative notion**: an entry is classified `counts` exactly when it counts (canonical key, authorized,
shape of the mode, primitive accepts) — and the loop never fails on an entry (`error` does not occur).  The driver reports this class for every entry of
every generated envelope; the harness compares it, entry by entry, with its independent oracle. -/
theorem entryClass_counts_iff (C : CryptoFns) (gpg : Bool) (auth : List PStr) (data : Bytes) (k : PStr) (sig : J) :
    (entryClass C gpg auth data k sig = .counts ↔ Counts C gpg auth data k sig) ∧ entryClass C gpg auth data k sig ≠ .error := by
  -- the empty accumulator gains an entry exactly when the entry counts (`verifyEntry_eq`); the five branches on `[]` name other classes
  have e := verifyEntry_eq C gpg auth data [] k sig
  fun_cases entryClass C gpg auth data k sig with
  | case1 _ _ h => exact ⟨⟨fun _ => byContradiction fun hc => by simp [e, hc] at h, fun _ => rfl⟩, nofun⟩   -- an entry was added
  | case2 _ h => rw [e] at h; cases h                                                                      -- the loop body failed
  | _ h => exact ⟨⟨nofun, fun hc => by simp [e, hc, dictSet] at h⟩, nofun⟩

/-- no key contributes more than once — not even under two spellings: the counted keys are pairwise distinct as *byte strings* -/
theorem counted_keys_distinct_bytes (C : CryptoFns) (gpg : Bool) (auth : List PStr) (data : Bytes) (entries : List (PStr × J)) (thr : Nat)
    (h : ThresholdMet C gpg auth data entries thr) :
    ∃ S : List PStr, (S.map unhex).Nodup ∧ thr ≤ S.length ∧ ∀ k ∈ S, ∃ sig, (k, sig) ∈ entries ∧ Counts C gpg auth data k sig := by
  obtain ⟨S, hS, hl, hall⟩ := h
  exact ⟨S, nodup_unhex hS fun k hk => by obtain ⟨_, _, hc⟩ := hall k hk; exact hc.1, hl, hall⟩

/-- the verdict depends on the signature map only through its counting entries -/
theorem thresholdMet_iff_counting (C : CryptoFns) (gpg : Bool) (auth : List PStr) (data : Bytes) (entries entries' : List (PStr × J))
    (h : ∀ k sig, Counts C gpg auth data k sig → ((k, sig) ∈ entries ↔ (k, sig) ∈ entries')) (thr : Nat) :
    ThresholdMet C gpg auth data entries thr ↔ ThresholdMet C gpg auth data entries' thr :=
  ⟨.imp (Nat.le_refl _) fun k sig hm hc => ⟨sig, (h k sig hc).mp hm, hc⟩, .imp (Nat.le_refl _) fun k sig hm hc => ⟨sig, (h k sig hc).mpr hm, hc⟩⟩

/-- a threshold cannot be met by fewer distinct authorized keys than the threshold -/
theorem threshold_needs_enough_authorized (C : CryptoFns) (gpg : Bool) (auth : List PStr) (data : Bytes) (entries : List (PStr × J)) (thr : Nat)
    (h : ThresholdMet C gpg auth data entries thr) : ∃ S : List PStr, S.Nodup ∧ thr ≤ S.length ∧ ∀ k ∈ S, k ∈ auth := by
  obtain ⟨S, hS, hl, hall⟩ := h
  exact ⟨S, hS, hl, fun k hk => by obtain ⟨_, _, hc⟩ := hall k hk; exact hc.2.1⟩

-- non-vacuity: a toy scheme and a concrete accepted envelope
/-- a toy "signature scheme": the signature of `m` under seed `s` is 64 copies of a checksum -/
def toyC : CryptoFns where
  verify pub msg sig := sig == List.replicate 64 ((pub.foldl (· + ·) 0 + msg.foldl (· + ·) 0) % 256)
  sign seed msg := List.replicate 64 ((seed.foldl (· + ·) 0 + msg.foldl (· + ·) 0) % 256)
  pubOf seed := seed
  sha256 m := List.replicate 32 (m.foldl (· + ·) 0 % 256)

def k1 : PStr := List.replicate 64 49
def envOk : J :=
  .obj [(ps! "signatures", .obj [(k1, .obj [(ps! "signature", .str (hexOfBytes (toyC.sign (unhex k1) (ser (.int 7)))))]),
                                 (ps! "junk", .str (ps! "x"))]),
        (ps! "signed", .int 7)]
example : verifySignableJ toyC envOk (.arr [.str k1]) (.int 1) false = .ok () := by decide +kernel
example : verifySignableJ toyC envOk (.arr [.str k1]) (.int 2) false = .error .signature := by decide +kernel
example : verifySignableJ toyC envOk (.arr []) (.int 1) false = .error .signature := by decide +kernel
example : verifySignableJ toyC envOk (.arr [.str k1]) (.int 1) true = .error .signature := by decide +kernel

end CCT.C01
