import CCT.Props.C13
import CCT.Props.C09
import CCT.Lemmas.GpgPath
/-!
# C10 — OpenPGP-wrapped signatures follow RFC 4880 v4

Model: `verifyGpgSignatureJ` (`authentication.py:467-541`); the library's own GPG signing path (`root_signing.py`):
`Model/RootSigning.lean`.  What GnuPG itself emits is outside any theorem; the theorem states what the verifier accepts, the
interoperability run (evidence) shows GnuPG's output is in that set.
-/
namespace CCT.C10
open CCT CCT.C15
open Classical

/-- the digest: SHA-256 of `payload ‖ hashed headers ‖ 04 ff ‖ big-endian 32-bit length of the headers` -/
theorem gpgDigest_def (C : CryptoFns) (data hdr : Bytes) :
    gpgDigest C data hdr = C.sha256 (data ++ hdr ++ [4, 255] ++ [hdr.length / 16777216 % 256, hdr.length / 65536 % 256, hdr.length / 256 % 256, hdr.length % 256]) := rfl

/-- **valid exactly when** the 64-byte signature verifies, under the raw key, over that digest -/
theorem verifyGpg_iff (C : CryptoFns) (sig key : J) (data : Bytes) (hs : GpgShape sig) (hk : HexN 64 key) :
    verifyGpgSignatureJ C sig key data = .ok () ↔
      C.verify (unhex (strOf key)) (gpgDigest C data (unhex (strOf (entryField (ps! "other_headers") sig))))
        (unhex (strOf (entryField (ps! "signature") sig))) = true := by
  rw [verifyGpgSignatureJ_eq, if_pos ⟨hs, hk⟩]
  exact ok_iff

/-- the only outcomes of `verify_gpg_signature`: acceptance, an argument error, the crypto library's invalid-signature error.  (Which input gets
which is `verifyGpgSignatureJ_eq`: an entry of any other shape or a key of any other spelling is the argument error.) -/
theorem verifyGpg_outcomes (C : CryptoFns) (sig key : J) (data : Bytes) :
    verifyGpgSignatureJ C sig key data = .ok () ∨ verifyGpgSignatureJ C sig key data = .error .arg ∨
    verifyGpgSignatureJ C sig key data = .error .invalidSignature := C13.verifyGpgSignatureJ_families C sig key data

theorem be32_injective (n m : Nat) (hn : n < 4294967296) (hm : m < 4294967296) (h : be32 n = be32 m) : n = m := by
  -- both are the value of their four base-256 digits
  simp only [be32, List.cons.injEq, and_true] at h
  obtain ⟨h3, h2, h1, h0⟩ := h
  rw [← digits4 (b := 256) rfl rfl hn, ← digits4 (b := 256) rfl rfl hm, h3, h2, h1, h0]

theorem be32_length (n : Nat) : (be32 n).length = 4 := rfl

/-- **the hashed data is uniquely decodable**: the trailer (04 ff and the header length) makes payload and headers recoverable from
the digest input, so two different (payload, headers) pairs never hash the same bytes -/
theorem digestInput_injective (d h d' h' : Bytes) (hl : h.length < 4294967296) (hl' : h'.length < 4294967296)
    (e : gpgDigestInput d h = gpgDigestInput d' h') : d = d' ∧ h = h' := by
  -- split off the 4-byte length field, then the 2-byte marker, then use equal header lengths
  obtain ⟨e1, e2⟩ := List.append_inj' (show d ++ h ++ [4, 255] ++ be32 h.length = d' ++ h' ++ [4, 255] ++ be32 h'.length from e) rfl
  exact List.append_inj' (List.append_inj' e1 rfl).1 (be32_injective _ _ hl hl' e2)

/-- **any change to payload or headers is rejected — or a SHA-256 collision / a signature valid for two digests is exhibited**:
if an entry counts for payload `d` and also for a different payload `d'`, then either the two digest inputs (which differ, by
`digestInput_injective`) collide under SHA-256, or one signature verifies for two different digests -/
theorem change_rejected_or_collision (C : CryptoFns) (pub hdr sig d d' : Bytes) (hl : hdr.length < 4294967296) (hne : d ≠ d')
    (h1 : C.verify pub (gpgDigest C d hdr) sig = true) (h2 : C.verify pub (gpgDigest C d' hdr) sig = true) :
    (gpgDigestInput d hdr ≠ gpgDigestInput d' hdr ∧ C.sha256 (gpgDigestInput d hdr) = C.sha256 (gpgDigestInput d' hdr)) ∨
    (gpgDigest C d hdr ≠ gpgDigest C d' hdr ∧ C.verify pub (gpgDigest C d hdr) sig = true ∧ C.verify pub (gpgDigest C d' hdr) sig = true) := by
  have hin : gpgDigestInput d hdr ≠ gpgDigestInput d' hdr := fun e => hne (digestInput_injective d hdr d' hdr hl hl e).1
  by_cases hc : gpgDigest C d hdr = gpgDigest C d' hdr
  · exact Or.inl ⟨hin, hc⟩
  · exact Or.inr ⟨hc, h1, h2⟩

/-- the counting rule of `verify_signable(gpg=True)` is this verifier: an entry counts iff it is filed under an authorized canonical
key and `verify_gpg_signature` accepts it -/
theorem counts_gpg_iff (C : CryptoFns) (auth : List PStr) (data : Bytes) (k : PStr) (sig : J) :
    Counts C true auth data k sig ↔ HexN 64 (.str k) ∧ k ∈ auth ∧ GpgShape sig ∧ verifyGpgSignatureJ C sig (.str k) data = .ok () :=
  counts_gpg.trans <| and_congr_right fun h1 => and_congr_right fun _ => and_congr_right fun h3 => (verifyGpg_iff C sig _ data h3 h1).symm

/-- a GnuPG-style signer that conforms to RFC 4880 for the ed25519 key with seed `seed`: over `data` it returns some non-empty hashed-header
bytes `hdr` together with the key's signature over `SHA-256(data ‖ hdr ‖ 04 ff ‖ be32 len hdr)`, and it exports the key's raw public value -/
def ConformingSigner (C : CryptoFns) (G : GpgBackend) (fpr : PStr) (seed : Bytes) : Prop :=
  (∀ data, ∃ hdr : Bytes, hdr ≠ [] ∧ (∀ b ∈ hdr, b < 256) ∧
      G.createSignature data fpr = .ok (hexOfBytes hdr, hexOfBytes (C.sign seed (gpgDigest C data hdr)))) ∧
  G.exportQ fpr = .ok (hexOfBytes (C.pubOf seed))

/-- the entry `sign_via_gpg` builds from hex strings of the right lengths is an OpenPGP entry -/
theorem gpgEntry_shape {oh sg : PStr} (h1 : LowerHex oh) (h2 : HexN 128 (.str sg)) :
    GpgShape (.obj [(ps! "other_headers", .str oh), (ps! "signature", .str sg)]) :=
  ⟨_, rfl, Or.inl rfl, ⟨_, rfl, _, rfl, h1⟩, ⟨_, rfl, h2⟩, nofun⟩

/-- **detached signatures of a conforming GnuPG signer, transcribed by the library's GPG signing path into an entry filed under the key's raw
public value, are accepted**: after `sign_root_metadata_dict_via_gpg` the envelope verifies in OpenPGP mode with that key authorized -/
theorem gpg_path_interoperates (C : Crypto) (G : GpgBackend) (fpr : PStr) (seed : Bytes) (hs : seed.length = 32)
    (hf : HexN 40 (.str fpr)) (hnorm : normalizeFingerprint fpr = fpr) (hG : ConformingSigner C.toCryptoFns G fpr seed)
    (env : J) (entries : List (PStr × J)) (signed : J) (hp : EnvParts env entries signed) :
    ∃ env', signRootMdDictViaGpg G true env (.str fpr) = .ok env' ∧
      verifySignableJ C.toCryptoFns env' (.arr [.str (C09.pubHex C.toCryptoFns seed)]) (.int 1) true = .ok () := by
  obtain ⟨top, rfl, -⟩ := hp.top
  obtain ⟨hdr, hne, hb, hsig⟩ := hG.1 (ser signed)
  refine ⟨_, signRootMdDictViaGpg_ok hp ((checkGpgFingerprint_iff _).mpr hf) hnorm hsig hG.2,
    verifySignable_one (envParts_set_entries hp _) mem_dictSet_self ?_⟩
  refine counts_gpg.mpr ⟨C09.pubHex_key C seed hs, List.mem_singleton_self _,
    gpgEntry_shape (lowerHex_hexOfBytes hdr hne) (hexN_hexOfBytes (C.sign_len seed _ hs)), ?_⟩
  show C.verify (unhex (hexOfBytes (C.pubOf seed))) (gpgDigest _ (ser signed) (unhex (hexOfBytes hdr))) (unhex (hexOfBytes (C.sign seed _))) = true
  rw [unhex_hexOfBytes _ (C.pub_byte seed hs), unhex_hexOfBytes _ hb, unhex_hexOfBytes _ (C.sign_byte seed _ hs)]
  exact C.correct seed _ hs

/-- without the optional dependency the GPG path fails with ImportError before anything else happens -/
theorem gpg_path_needs_dependency (G : GpgBackend) (env fpr : J) : signRootMdDictViaGpg G false env fpr = .error .importErr := by
  rfl

end CCT.C10
