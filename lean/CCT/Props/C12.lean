import CCT.Props.C09
import CCT.Lemmas.HeapLemmas
import CCT.Model.Threads
/-!
# C12 — verification is pure  (partial: thread switches inside a CPython bytecode and import order are run, not modelled)

In the model every validator and verifier is a mathematical function of the *values* of its arguments and returns no reference to
them, so the value-level statements are short; their weight is on the implementation side (snapshots, histories, threads,
fresh processes — see the evidence).
-/
namespace CCT.C12
open CCT

/-- a call of the public API on JSON arguments -/
inductive Call where
  | vsignable (env keys thr : J) (gpg : Bool)
  | vdeleg (name : PStr) (u t : J) (gpg : Bool)
  | vroot (t u : J)
  | checkMd (m : J)

def eval (C : CryptoFns) : Call → Res Unit
  | .vsignable e k t g => verifySignableJ C e k t g
  | .vdeleg n u t g => verifyDelegationJ C n u t g
  | .vroot t u => verifyRootJ C t u
  | .checkMd m => checkDelegatingMdJ m

/-- a history: the verdicts of a sequence of calls, in order -/
def runHistory (C : CryptoFns) (calls : List Call) : List (Res Unit) := calls.map (eval C)

/-- **verdicts depend only on the arguments of the call**: whatever calls came before, the verdict of a call is the verdict of that call alone -/
theorem history_independent (C : CryptoFns) (before : List Call) (c : Call) :
    (runHistory C (before ++ [c])).getLast? = some (eval C c) := by
  simp [runHistory]

/-- reordering calls never changes any verdict -/
theorem reorder_invariant (C : CryptoFns) (calls calls' : List Call) (h : calls.Perm calls') (c : Call) (hc : c ∈ calls) :
    eval C c ∈ runHistory C calls' := by
  simp only [runHistory, List.mem_map]
  exact ⟨c, h.mem_iff.mp hc, rfl⟩

/-- in the model `verify_signable` is a function of the values of its arguments: equal envelopes get equal verdicts.  This is congruence and holds
of every Lean function; that the code keeps nothing from one call to a related one (same key, same entries, another payload) is established on the
implementation side (see the head of this file) -/
theorem verifier_is_function_of_values (C : CryptoFns) (e e' k t : J) (g : Bool) (h : e = e') :
    verifySignableJ C e k t g = verifySignableJ C e' k t g := by rw [h]

/-- wrapping returns a fresh envelope whose payload is (a copy of) the value: nothing of the result depends on anything but the value -/
theorem wrap_result_independent (v : J) : wrapAsSignable (.j v) = .ok (.obj [(ps! "signatures", .obj []), (ps! "signed", v)]) := rfl

/-- **deep copy reads back the same value** -/
theorem deepcopy_value (h : Heap) (v : J) : deref (alloc h v).1 v.size (alloc h v).2 = some v :=
  (alloc_spec h v).2.2.2 _ _ (fun _ _ _ => rfl) (Nat.le_refl _)

/-- **deep copy is fresh**: the copy's root is a new object and no existing object is modified by copying -/
theorem deepcopy_fresh (h : Heap) (v : J) :
    h.next ≤ (alloc h v).2 ∧ ∀ j, j < h.next → (alloc h v).1.get j = h.get j :=
  ⟨(alloc_spec h v).1, (alloc_spec h v).2.2.1.2⟩

theorem alloc_next_le (h : Heap) (v : J) : h.next ≤ (alloc h v).1.next :=
  (alloc_spec h v).2.2.1.1

/-- **later changes to the original never affect the copy**: after any sequence of in-place modifications of objects that existed before
the copy was made (everything reachable from the original is such an object), the copy still reads the same value -/
theorem copy_unaffected_by_old_writes (h : Heap) (v : J) (ws : List (Nat × Obj)) (hws : ∀ w ∈ ws, w.1 < h.next) :
    deref (applyWrites (alloc h v).1 ws) v.size (alloc h v).2 = some v :=
  (alloc_spec h v).2.2.2 _ _ (fun _ lo _ => applyWrites_get_above ws _ hws lo) (Nat.le_refl _)

/-- **later changes to the copy never affect the original**: after any sequence of in-place modifications of objects created by the copy,
every tree of the (closed) old heap reads exactly as before -/
theorem old_unaffected_by_copy_writes (h : Heap) (hc : Closed h) (v : J) (ws : List (Nat × Obj)) (hws : ∀ w ∈ ws, h.next ≤ w.1)
    (r : Nat) (hr : r < h.next) (f : Nat) : deref (applyWrites (alloc h v).1 ws) f r = deref h f r := by
  refine deref_agree_below h _ h.next (fun i o ho _ => (hc i o ho).2) (fun j hj => ?_) f r hr
  rw [applyWrites_get ws _ j (fun w hw e => Nat.lt_irrefl j (Nat.lt_of_lt_of_le hj (e ▸ hws w hw)))]
  exact (alloc_spec h v).2.2.1.2 j hj

/-- `wrap_as_signable(obj)` on the heap: the envelope's payload reads as the value of `obj` at wrapping time, whatever is later done to
`obj` or to anything else that existed before -/
theorem wrap_isolated (h : Heap) (depth : Nat) (obj : Nat) (v : J) (hv : deref h depth obj = some v) (ws : List (Nat × Obj))
    (hws : ∀ w ∈ ws, w.1 < h.next) :
    ∃ h' env signed sigs, wrapOnHeap h depth obj = some (h', env) ∧
      (applyWrites h' ws).get env = some (.dict [(ps! "signatures", sigs), (ps! "signed", signed)]) ∧
      deref (applyWrites h' ws) v.size signed = some v := by
  obtain ⟨_, _, a, ha⟩ := alloc_spec h v
  -- the two pushes of the envelope extend the heap of the copy, and the writes lie below all of it
  have e := ((alloc h v).1.extends_push (.dict [])).trans
    (Heap.extends_push _ (.dict [(ps! "signatures", (alloc h v).1.next), (ps! "signed", (alloc h v).2)]))
  refine ⟨_, _, (alloc h v).2, (alloc h v).1.next, by simp only [wrapOnHeap, hv]; rfl, ?_, ha _ _ (fun j lo hi => ?_) (Nat.le_refl _)⟩
  · exact (applyWrites_get_above ws _ hws (Nat.le_trans a.1 (Nat.le_succ _))).trans (push_spec _ _).2.2.1
  · exact (applyWrites_get_above ws _ hws lo).trans (e.2 j hi)

/-- why the copy must be deep: with a *shallow* copy, modifying a nested container of the original changes what the copy reads -/
def demoHeap : Heap :=
  { get := fun i => if i = 0 then some (.atom (.int 1)) else if i = 1 then some (.list [0]) else if i = 2 then some (.dict [(ps! "a", 1)]) else none, next := 3 }

example : deref (shallowCopy demoHeap 2).1 5 (shallowCopy demoHeap 2).2 = some (.obj [(ps! "a", .arr [.int 1])]) := by
  simp only [deref, derefList, derefMembers, shallowCopy, demoHeap, Heap.push, ↓reduceIte, Nat.reduceEqDiff, Nat.reduceAdd, Option.map]
example : deref ((shallowCopy demoHeap 2).1.write 1 (.list [])) 5 (shallowCopy demoHeap 2).2 = some (.obj [(ps! "a", .arr [])]) := by
  simp only [deref, derefList, derefMembers, shallowCopy, demoHeap, Heap.push, Heap.write, Heap.set, ↓reduceIte, Nat.reduceEqDiff, Nat.reduceAdd,
    Nat.reduceLT, Option.map]
example : deref ((alloc demoHeap (.obj [(ps! "a", .arr [.int 1])])).1.write 1 (.list [])) 5 (alloc demoHeap (.obj [(ps! "a", .arr [.int 1])])).2
    = some (.obj [(ps! "a", .arr [.int 1])]) :=
  copy_unaffected_by_old_writes demoHeap (.obj [(ps! "a", .arr [.int 1])]) [(1, .list [])] (by decide)

/-- a validator / verifier call on heap objects: read the argument trees, evaluate — the heap is returned unchanged (the model's API has no
write operation at all; the correspondence check snapshots every argument of the real code before and after each call) -/
def apiCall (C : CryptoFns) (h : Heap) (depth : Nat) (env keys thr : Nat) (gpg : Bool) : Heap × Option (Res Unit) :=
  (h, match deref h depth env, deref h depth keys, deref h depth thr with
      | some e, some k, some t => some (verifySignableJ C e k t gpg)
      | _, _, _ => none)

theorem verifiers_frame (C : CryptoFns) (h : Heap) (depth env keys thr : Nat) (gpg : Bool) : (apiCall C h depth env keys thr gpg).1 = h := rfl

def ReadOnlyStep {σ : Type} (f : Heap → σ → Heap × σ) : Prop := ∀ h s, (f h s).1 = h
def ReadOnlyThreads {σ : Type} (ts : Nat → Thread σ) : Prop := ∀ i, ∀ f ∈ (ts i).steps, ReadOnlyStep f

theorem runAlone_readonly {σ : Type} (h : Heap) : ∀ (fs : List (Heap → σ → Heap × σ)) (s : σ), (∀ f ∈ fs, ReadOnlyStep f) →
    (runAlone h fs s).1 = h := by
  intro fs
  induction fs generalizing h with
  | nil => exact fun _ _ => rfl
  | cons f r ih =>
    exact fun s hro => (ih (f h s).1 (f h s).2 fun g hg => hro g (List.mem_cons_of_mem _ hg)).trans (hro f (List.mem_cons_self ..) h s)

/-- one turn of thread `a` with read-only steps, in the terms of `sched_readonly`: the heap stays, and thread `i` is where it was, one step further if `i = a` -/
theorem stepThread_readonly {σ : Type} (h : Heap) (ts : Nat → Thread σ) (a : Nat) (hro : ∀ f ∈ (ts a).steps, ReadOnlyStep f) :
    (stepThread h ts a).1 = h ∧ ∀ i n,
      ((stepThread h ts a).2 i).steps.drop n = (ts i).steps.drop (n + if a = i then 1 else 0) ∧
      (runAlone h (((stepThread h ts a).2 i).steps.take n) ((stepThread h ts a).2 i).loc).2 =
        (runAlone h ((ts i).steps.take (n + if a = i then 1 else 0)) (ts i).loc).2 := by
  fun_cases stepThread h ts a with
  | case1 hs => exact ⟨rfl, fun i n => by split <;> simp_all⟩         -- no step left: `drop` / `take` of `[]` are `[]`
  | case2 f rest hs h' s' he =>
    have hf : h' = h := by simpa [he] using hro f (hs ▸ List.mem_cons_self) h (ts a).loc
    refine ⟨hf, fun i n => ?_⟩
    by_cases hia : a = i
    · -- the thread's own turn: `take (n + 1)` of `f :: rest` is `f` and then `take n rest`, and that first step alone is `he`
      subst hia
      simp [hs, runAlone, he, hf]
    · simp [hia, Ne.symm hia]

/-- **every interleaving**: under any schedule, threads that never write the heap leave it unchanged, and each thread is exactly where
it would be after taking the same number of steps alone on the initial heap -/
theorem sched_readonly {σ : Type} (h : Heap) : ∀ (sched : List Nat) (ts : Nat → Thread σ), ReadOnlyThreads ts →
    (runSched h ts sched).1 = h ∧
    ∀ i, ((runSched h ts sched).2 i).steps = (ts i).steps.drop (sched.count i) ∧
         ((runSched h ts sched).2 i).loc = (runAlone h ((ts i).steps.take (sched.count i)) (ts i).loc).2 := by
  intro sched
  induction sched with
  | nil => intro ts _; simp [runSched, runAlone]
  | cons a r ih =>
    intro ts hro
    obtain ⟨e1, e2⟩ := stepThread_readonly h ts a (hro a)
    -- the threads after the turn are read-only still: their steps are steps of `ts`
    obtain ⟨ih1, ih2⟩ := ih (stepThread h ts a).2 fun i f hf =>
      hro i f (List.mem_of_mem_drop ((show ((stepThread h ts a).2 i).steps = _ from (e2 i 0).1) ▸ hf))
    simp only [runSched, e1, List.count_cons, beq_iff_eq]
    exact ⟨ih1, fun i => ⟨(ih2 i).1.trans (e2 i _).1, (ih2 i).2.trans (e2 i _).2⟩⟩

/-- a thread that was given at least as many turns as it has steps has finished with the result of running alone -/
theorem finished_thread_result {σ : Type} (h : Heap) (sched : List Nat) (ts : Nat → Thread σ) (hro : ReadOnlyThreads ts) (i : Nat)
    (hfin : (ts i).steps.length ≤ sched.count i) :
    ((runSched h ts sched).2 i).steps = [] ∧ ((runSched h ts sched).2 i).loc = (runAlone h (ts i).steps (ts i).loc).2 := by
  obtain ⟨a, b⟩ := (sched_readonly h sched ts hro).2 i
  exact ⟨a.trans (List.drop_eq_nil_of_le hfin), by rw [b, List.take_of_length_le hfin]⟩

theorem verifierSteps_readonly (C : CryptoFns) (depth env keys thr : Nat) (gpg : Bool) :
    ∀ f ∈ verifierSteps C depth env keys thr gpg, ReadOnlyStep f := by
  intro f hf
  simp only [verifierSteps, List.mem_cons, List.mem_nil_iff, or_false] at hf
  rcases hf with rfl | rfl | rfl | rfl <;> intro h s <;> rfl

theorem verifier_alone (C : CryptoFns) (h : Heap) (depth env keys thr : Nat) (gpg : Bool) :
    (runAlone h (verifierSteps C depth env keys thr gpg) {}).2.verdict =
      verdictOf C gpg (deref h depth env) (deref h depth keys) (deref h depth thr) := rfl

/-- **concurrent verification over shared metadata**: any number of verifier threads (thread `i` checks the heap objects `args i`), under
*every* schedule — every interleaving of their reads — leave the shared heap untouched, and every thread that has been given its four
turns holds exactly the verdict the same call returns when run alone (`apiCall`) -/
theorem concurrent_verdicts (C : CryptoFns) (h : Heap) (depth : Nat) (args : Nat → Nat × Nat × Nat × Bool) (sched : List Nat) :
    let ts : Nat → Thread VLocal := fun i => verifierThread C depth (args i).1 (args i).2.1 (args i).2.2.1 (args i).2.2.2
    (runSched h ts sched).1 = h ∧
    ∀ i, 4 ≤ sched.count i →
      ((runSched h ts sched).2 i).loc.verdict = (apiCall C h depth (args i).1 (args i).2.1 (args i).2.2.1 (args i).2.2.2).2 := by
  intro ts
  have hro : ReadOnlyThreads ts := fun i => verifierSteps_readonly C depth _ _ _ _
  refine ⟨(sched_readonly h sched ts hro).1, fun i hi => ?_⟩
  -- `verdictOf` of the three reads is, by definition, what `apiCall` returns
  exact (congrArg VLocal.verdict (finished_thread_result h sched ts hro i hi).2).trans (verifier_alone C h depth _ _ _ _)

/-- why the hypothesis matters: one thread with a *writing* step (an in-place `sort()` / normalisation of a shared argument, a module-level
tally) and the verdict of a concurrent verifier depends on the schedule -/
def writerThread (i : Nat) (o : Obj) : Thread VLocal := { steps := [fun h s => (h.write i o, s)], loc := {} }

def demoH : Heap :=
  { get := fun i => if i = 0 then some (.atom .null) else if i = 1 then some (.dict []) else
                    if i = 2 then some (.dict [(ps! "signatures", 1), (ps! "signed", 0)]) else
                    if i = 3 then some (.list []) else if i = 4 then some (.atom (.int 1)) else none, next := 5 }

def demoTs : Nat → Thread VLocal := fun i => if i = 0 then verifierThread C09.toyCrypto.toCryptoFns 3 2 3 4 false else writerThread 4 (.atom (.int 0))

example : ((runSched demoH demoTs [0,0,0,0,1]).2 0).loc.verdict = some (.error .signature) := by
  -- the verifier has read all three arguments before the writer's turn
  show verdictOf C09.toyCrypto.toCryptoFns false (deref demoH 3 2) (deref demoH 3 3) (deref demoH 3 4) = _
  simp only [demoH, deref, derefList, derefMembers, ↓reduceIte, Nat.reduceEqDiff, Option.map, verdictOf]
  decide +kernel
example : ((runSched demoH demoTs [0,0,1,0,0]).2 0).loc.verdict = some (.error .arg) := by
  -- the writer's turn comes before the verifier reads its third argument
  show verdictOf C09.toyCrypto.toCryptoFns false (deref demoH 3 2) (deref demoH 3 3) (deref (demoH.write 4 (.atom (.int 0))) 3 4) = _
  simp only [demoH, deref, derefList, derefMembers, Heap.write, Heap.set, ↓reduceIte, Nat.reduceEqDiff, Nat.reduceLT, Option.map, verdictOf]
  decide +kernel

end CCT.C12
