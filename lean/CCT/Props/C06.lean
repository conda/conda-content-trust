import CCT.Props.C05
import CCT.Props.C02
/-!
# C06 — the declared metadata type is bound to the role by signed content alone

Model: `verifyDelegationJ` (`authentication.py:142-244`), whose type check runs the delegating-metadata checker on the signed portion alone
(`signedOnlyEnvelope`); accordingly `TypeMismatch` is a condition on the signed portion.  A mismatch is never accepted, and the signature map,
which is not signed, influences the verdict only through the entries that count (`withEntries u e`: the envelope `u` with the map `e`).
-/
namespace CCT.C06
open CCT CCT.C15 CCT.C05
open Classical

/-- metadata whose signed portion is itself well-formed delegating metadata declaring another type is never accepted as that role —
whatever the (unsigned) signature map contains -/
theorem type_mismatch_never_accepted (C : CryptoFns) (name : PStr) (u t : J) (gpg : Bool) (h : TypeMismatch name u) :
    verifyDelegationJ C name u t gpg ≠ .ok () := by
  intro hok
  exact ((verifyDelegation_iff C name u t gpg).mp hok).2.2.1 h

/-- with well-formed trusted metadata and a signable envelope, such a type mismatch is reported as a metadata-verification error -/
theorem type_mismatch_error (C : CryptoFns) (name : PStr) (u t : J) (gpg : Bool) (hT : Schema t) (hU : isSignableJ u = true)
    (h : TypeMismatch name u) : verifyDelegationJ C name u t gpg = .error .metadataVerification := by
  rw [verifyDelegation_verdict, if_neg (not_not_intro ⟨hT, hU⟩), if_pos h]

/-- the same envelope with another signature map -/
def withEntries (u : J) (entries : List (PStr × J)) : J :=
  .obj [(ps! "signatures", .obj entries), (ps! "signed", signedOf u)]

theorem withEntries_parts (u : J) (e : List (PStr × J)) : EnvParts (withEntries u e) e (signedOf u) := envParts_literal e _

noncomputable def countingFor (C : CryptoFns) (gpg : Bool) (d u : J) : List (PStr × J) :=
  (entriesOf u).filter fun p => decide (Counts C gpg (keysOf d) (ser (signedOf u)) p.1 p.2)

/-- **the verdict of `verify_delegation` depends on the signature map only through the entries that count for the named role**: any other map
with the same counting entries gets the same verdict -/
theorem verdict_counting_only (C : CryptoFns) (name : PStr) (u t : J) (gpg : Bool) (e : List (PStr × J)) (hU : isSignableJ u = true)
    (he : ∀ d, roleOf t name = some d → ∀ k sig, Counts C gpg (keysOf d) (ser (signedOf u)) k sig → ((k, sig) ∈ entriesOf u ↔ (k, sig) ∈ e)) :
    verifyDelegationJ C name (withEntries u e) t gpg = verifyDelegationJ C name u t gpg := by
  -- the tests before the rule read `isSignable` and the signed part, which `withEntries` keeps; the map enters through `ThresholdMet` only
  obtain ⟨h2, h3⟩ := envParts_accessors (withEntries_parts u e)
  rw [verifyDelegation_verdict, verifyDelegation_verdict, (withEntries_parts u e).signable, hU, TypeMismatch, TypeMismatch, typeOf, typeOf, h2]
  cases hr : roleOf t name with
  | none => rfl
  | some d => simp only [RuleMet, h2, h3, C01.thresholdMet_iff_counting C gpg _ _ _ _ (he d hr)]

/-- **accept implies stripped accept** (delegation): keeping only the valid signatures by the role's authorized keys preserves acceptance -/
theorem accept_implies_stripped_accept (C : CryptoFns) (name : PStr) (u t : J) (gpg : Bool) (d : J) (hr : roleOf t name = some d)
    (h : verifyDelegationJ C name u t gpg = .ok ()) :
    verifyDelegationJ C name (withEntries u (countingFor C gpg d u)) t gpg = .ok () := by
  rw [verdict_counting_only C name u t gpg _ ((verifyDelegation_iff C name u t gpg).mp h).2.1, h]
  intro d' hd' k sig hc
  rw [hr] at hd'; cases hd'
  simp [countingFor, hc]

/-- **nothing added to the unsigned signature map, short of a counting signature, turns a rejection into an acceptance** -/
theorem unsigned_part_cannot_help (C : CryptoFns) (name : PStr) (u t : J) (gpg : Bool) (junk : List (PStr × J))
    (hj : ∀ d, roleOf t name = some d → ∀ p ∈ junk, ¬ Counts C gpg (keysOf d) (ser (signedOf u)) p.1 p.2)
    (hU : isSignableJ u = true)
    (h : verifyDelegationJ C name (withEntries u (entriesOf u ++ junk)) t gpg = .ok ()) :
    verifyDelegationJ C name u t gpg = .ok () := by
  rw [← verdict_counting_only C name u t gpg _ hU, h]
  intro d hd k sig hc
  exact ⟨fun hm => List.mem_append_left _ hm, fun hm => (List.mem_append.mp hm).resolve_right fun hx => hj d hd _ hx hc⟩

/-- for `verify_signable` itself, in the direction of acceptance: an accepted envelope stays accepted when its signature map is replaced by any
map with the same counting entries -/
theorem verifySignable_counting_only (C : CryptoFns) (u : J) (ks : List J) (thr : J) (gpg : Bool) (hk : ∀ k ∈ ks, HexN 64 k)
    (e' : List (PStr × J))
    (he : ∀ k sig, Counts C gpg (ks.map strOf) (ser (signedOf u)) k sig → ((k, sig) ∈ entriesOf u ↔ (k, sig) ∈ e'))
    (h : verifySignableJ C u (.arr ks) thr gpg = .ok ()) :
    verifySignableJ C (withEntries u e') (.arr ks) thr gpg = .ok () := by
  obtain ⟨entries, signed, ks', t, hp, e, _, ht, hpos, hm⟩ := C01.verifySignable_sound C u _ thr gpg h
  cases e
  obtain ⟨a1, a2⟩ := envParts_accessors hp
  refine C02.verifySignable_complete C _ _ thr gpg e' (signedOf u) ks t (withEntries_parts u e') rfl hk ht hpos ?_
  rw [a1]
  rw [a1, a2] at he
  exact (C01.thresholdMet_iff_counting C gpg _ _ entries e' he _).mp hm

/-- an envelope accepted by `verify_signable` stays accepted when only its valid signatures by authorized keys are kept -/
theorem verifySignable_stripped (C : CryptoFns) (u : J) (ks : List J) (thr : J) (gpg : Bool) (hk : ∀ k ∈ ks, HexN 64 k)
    (h : verifySignableJ C u (.arr ks) thr gpg = .ok ()) :
    verifySignableJ C (withEntries u ((entriesOf u).filter fun p => decide (Counts C gpg (ks.map strOf) (ser (signedOf u)) p.1 p.2)))
      (.arr ks) thr gpg = .ok () :=
  verifySignable_counting_only C u ks thr gpg hk _ (fun k sig hc => by simp [hc]) h

end CCT.C06
