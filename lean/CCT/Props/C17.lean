import CCT.Props.C10
import CCT.Props.C08
import CCT.Model.CliEdit
/-!
# C17 — CLI exit status and output reflect the library's verdict  (partial: process start-up and exit are run, not modelled)

Model: `Model/Cli.lean` — `verify-metadata`, `sign-artifacts`, `gpg-sign`, `gpg-key-lookup` as functions from the bytes of the files named on the
command line to what `cli()` returns or lets escape (and the file left behind), `exitStatus` being CPython's rule that turns this into a process
status, the same for the three entry points — and `Model/CliEdit.lean`, `modify-metadata` as a function of the lines typed.
-/
namespace CCT.C17
open CCT CCT.C15
open Classical

/-- the verdict the command is about: root-chain check when the untrusted file declares type root, otherwise the delegation check
for its declared type (raw signatures) -/
def LibraryAccepts (C : CryptoFns) (trusted untrusted : J) : Prop :=
  ∃ ty, typeOfSigned untrusted = .ok ty ∧
    ((isRootType ty = true ∧ verifyRootJ C trusted untrusted = .ok ()) ∨
     (isRootType ty = false ∧ ∃ name, ty = .str name ∧ verifyDelegationJ C name untrusted trusted false = .ok ()))

theorem accepted_run (C : CryptoFns) (tf uf : Option Bytes)
    (h : ∃ t u, loadFile tf = .ok t ∧ loadFile uf = .ok u ∧ LibraryAccepts C t u) : cliVerifyMetadata C tf uf = (.returned (some 0), true) := by
  obtain ⟨t, u, ht, hu, ty, hty, ⟨hr, hv⟩ | ⟨hr, name, rfl, hv⟩⟩ := h
  all_goals
    unfold typeOfSigned at hty
    simp only [cliVerifyMetadata, ht, hu, hty, hr, hv, if_true, Bool.false_eq_true, if_false]

/-- every run is one on an accepted pair, or reports nothing and ends in one of three ways: an exception escapes, or the command returns 10
(root update rejected) or 20 (delegation rejected) -/
theorem run_cases (C : CryptoFns) (tf uf : Option Bytes) :
    (∃ t u, loadFile tf = .ok t ∧ loadFile uf = .ok u ∧ LibraryAccepts C t u) ∨ (∃ e, cliVerifyMetadata C tf uf = (.raised e, false)) ∨
    cliVerifyMetadata C tf uf = (.returned (some 10), false) ∨ cliVerifyMetadata C tf uf = (.returned (some 20), false) := by
  fun_cases cliVerifyMetadata C tf uf with
  | case4 u hu t ht ty hty hr _ hv => exact .inl ⟨t, u, ht, hu, ty, hty, .inl ⟨hr, hv⟩⟩                                   -- root: `verify_root` accepts
  | case7 u hu t ht name _ hv hty hr => exact .inl ⟨t, u, ht, hu, _, hty, .inr ⟨Bool.eq_false_iff.mpr hr, _, rfl, hv⟩⟩   -- a named role: `verify_delegation` accepts
  | case5 => exact .inr (.inr (.inl rfl))                                                                                -- root: rejected, 10
  | case8 => exact .inr (.inr (.inr rfl))                                                                                -- a named role: rejected, 20
  | _ => exact .inr (.inl ⟨_, rfl⟩)                                                                                      -- an exception escapes

/-- **exit status zero and success reported if and only if both files load and the library accepts** — for each way the tool can be started -/
theorem exit_zero_iff (C : CryptoFns) (ep : EntryPoint) (tf uf : Option Bytes) :
    (exitStatus ep (cliVerifyMetadata C tf uf).1 = 0 ∧ (cliVerifyMetadata C tf uf).2 = true) ↔
      ∃ t u, loadFile tf = .ok t ∧ loadFile uf = .ok u ∧ LibraryAccepts C t u := by
  refine ⟨fun ⟨_, hl⟩ => ?_, fun h => by rw [accepted_run C tf uf h]; exact ⟨rfl, rfl⟩⟩
  rcases run_cases C tf uf with h | ⟨_, h⟩ | h | h
  · exact h
  all_goals rw [h] at hl; cases hl

/-- the exit status of `verify-metadata` is 0, 1, 10 or 20 (which run gives which is `run_cases`) -/
theorem verify_codes (C : CryptoFns) (ep : EntryPoint) (tf uf : Option Bytes) :
    exitStatus ep (cliVerifyMetadata C tf uf).1 = 0 ∨ exitStatus ep (cliVerifyMetadata C tf uf).1 = 1 ∨
    exitStatus ep (cliVerifyMetadata C tf uf).1 = 10 ∨ exitStatus ep (cliVerifyMetadata C tf uf).1 = 20 := by
  rcases run_cases C tf uf with h | ⟨_, h⟩ | h | h
  · rw [accepted_run C tf uf h]; exact .inl rfl
  · rw [h]; exact .inr (.inl rfl)
  · rw [h]; exact .inr (.inr (.inl rfl))
  · rw [h]; exact .inr (.inr (.inr rfl))

/-- without a standard output object the status is the one reported otherwise (nothing is printed, nothing fails) -/
theorem absent_stdout_same_status (C : CryptoFns) (ep : EntryPoint) (tf uf : Option Bytes) :
    exitStatus ep (cliVerifyUnder C .absent tf uf).1 = exitStatus ep (cliVerifyMetadata C tf uf).1 := rfl

/-- on a standard output that cannot take text every run ends with status 1: an exception escaped already, or the report itself fails -/
theorem failing_stdout_one (C : CryptoFns) (ep : EntryPoint) (tf uf : Option Bytes) : exitStatus ep (cliVerifyUnder C .failing tf uf).1 = 1 := by
  unfold cliVerifyUnder
  rcases run_cases C tf uf with h | ⟨_, h⟩ | h | h
  · rw [accepted_run C tf uf h]; rfl
  all_goals rw [h]; rfl

/-- on a standard output that cannot take text the status is 1 or the one reported otherwise; the first always holds (`failing_stdout_one`) -/
theorem failing_stdout_status (C : CryptoFns) (ep : EntryPoint) (tf uf : Option Bytes) :
    exitStatus ep (cliVerifyUnder C .failing tf uf).1 = 1 ∨ exitStatus ep (cliVerifyUnder C .failing tf uf).1 = exitStatus ep (cliVerifyMetadata C tf uf).1 :=
  .inl (failing_stdout_one C ep tf uf)

/-- **a rejection is a non-zero status whatever standard output does** — it takes text, every write to it fails (dead pipe, full device), or the process
has none: whenever the pair is not one the library accepts, every entry point exits non-zero -/
theorem rejected_nonzero_any_stdout (C : CryptoFns) (ep : EntryPoint) (st : Stdout) (tf uf : Option Bytes)
    (hrej : ¬ ∃ t u, loadFile tf = .ok t ∧ loadFile uf = .ok u ∧ LibraryAccepts C t u) :
    exitStatus ep (cliVerifyUnder C st tf uf).1 ≠ 0 := by
  have hn : exitStatus ep (cliVerifyMetadata C tf uf).1 ≠ 0 := by
    rcases (run_cases C tf uf).resolve_left hrej with ⟨_, h⟩ | h | h <;> rw [h] <;> exact Nat.succ_ne_zero _
  cases st with
  | takesText => exact hn
  | absent => exact hn
  | failing => rw [failing_stdout_one]; exact Nat.one_ne_zero

/-- `sign-artifacts` is all or nothing: either it ends with status 1 and the file as it was, or the file loaded, was signed, and holds the
signed document -/
theorem sign_cases (C : CryptoFns) (ep : EntryPoint) (repodata : Option Bytes) (keyText : Option PStr) :
    (exitStatus ep (cliSignArtifacts C repodata keyText).1 = 1 ∧ (cliSignArtifacts C repodata keyText).2 = repodata) ∨
    ∃ doc doc' key, loadFile repodata = .ok doc ∧ signRepodataJ C doc (.str key) = .ok doc' ∧
      cliSignArtifacts C repodata keyText = (.returned none, some (ser doc')) := by
  fun_cases cliSignArtifacts C repodata keyText with
  | case3 t _ _ doc hl doc' hs => exact .inr ⟨doc, doc', _, hl, hs, rfl⟩   -- key given, file loads, signing succeeds
  | _ => exact .inl ⟨rfl, rfl⟩

/-- **the signing subcommand exits zero only if it actually signed**: status 0 implies the file now holds the signed document -/
theorem sign_zero_only_if_signed (C : CryptoFns) (ep : EntryPoint) (repodata : Option Bytes) (keyText : Option PStr)
    (h : exitStatus ep (cliSignArtifacts C repodata keyText).1 = 0) :
    ∃ doc doc' key, loadFile repodata = .ok doc ∧ signRepodataJ C doc (.str key) = .ok doc' ∧
      (cliSignArtifacts C repodata keyText).2 = some (ser doc') := by
  rcases sign_cases C ep repodata keyText with ⟨h1, _⟩ | ⟨doc, doc', key, hl, hs, e⟩
  · rw [h1] at h; cases h
  · exact ⟨doc, doc', key, hl, hs, by rw [e]⟩

/-- a bad key file: non-zero status and the repodata file is untouched -/
theorem sign_bad_key_untouched (C : CryptoFns) (ep : EntryPoint) (repodata : Option Bytes) (t : PStr)
    (h : isHexKeyJ (.str (asciiLower (pyStrip t))) = .ok false) :
    exitStatus ep (cliSignArtifacts C repodata (some t)).1 ≠ 0 ∧ (cliSignArtifacts C repodata (some t)).2 = repodata := by
  simp [cliSignArtifacts, h, exitStatus]

/-- **gpg-sign exits zero only if it actually signed** (and then the file is what the GPG signing path produced); any failure leaves the file as it was -/
theorem gpg_sign_zero_iff_signed (G : GpgBackend) (sslib : Bool) (ep : EntryPoint) (file : Option Bytes) (fprArg : PStr) :
    (exitStatus ep (cliGpgSign G sslib file fprArg).1 = 0 ↔
      ∃ b, signRootMdFileViaGpg G sslib file (.str (stripAllSpaceLower fprArg)) = .ok b ∧ (cliGpgSign G sslib file fprArg).2 = some b) ∧
    (exitStatus ep (cliGpgSign G sslib file fprArg).1 ≠ 0 → (cliGpgSign G sslib file fprArg).2 = file) := by
  unfold cliGpgSign
  cases h : signRootMdFileViaGpg G sslib file (.str (stripAllSpaceLower fprArg)) with
  | ok b => simp [exitStatus]
  | error e => simp [exitStatus]

/-- without the optional dependency gpg-key-lookup fails (status 1), and so does gpg-sign on a file that loads, leaving it as it was -/
theorem gpg_commands_need_dependency (G : GpgBackend) (ep : EntryPoint) (file : Option Bytes) (fprArg : PStr) :
    exitStatus ep (cliGpgKeyLookup G false fprArg).1 = 1 ∧
    (file ≠ none → (∃ v, loadFile file = .ok v) → exitStatus ep (cliGpgSign G false file fprArg).1 = 1 ∧ (cliGpgSign G false file fprArg).2 = file) := by
  refine ⟨rfl, ?_⟩
  rintro _ ⟨v, hv⟩
  unfold cliGpgSign signRootMdFileViaGpg
  rw [hv]
  exact ⟨rfl, rfl⟩

/-- **gpg-sign, end to end**: for a strict-UTF-8 file (any layout) that loads to an envelope, a conforming signer for the key with fingerprint `fpr`, and any spelling of
that fingerprint on the command line (case, whitespace), `gpg-sign` exits with status 0 from every entry point and leaves a file that loads to
an envelope which verifies in OpenPGP mode with the signer's raw public key authorized -/
theorem gpg_sign_end_to_end (C : Crypto) (G : GpgBackend) (ep : EntryPoint) (fpr fprArg : PStr) (seed : Bytes) (hs : seed.length = 32)
    (hf : HexN 40 (.str fpr)) (harg : stripAllSpaceLower fprArg = fpr) (hG : C10.ConformingSigner C.toCryptoFns G fpr seed)
    (b : Bytes) (hstrict : NoSurLead b) (env : J) (hload : loadBytes b = some env) (entries : List (PStr × J)) (signed : J) (hp : EnvParts env entries signed) :
    ∃ b' env'', cliGpgSign G true (some b) fprArg = (.returned none, some b') ∧ exitStatus ep (cliGpgSign G true (some b) fprArg).1 = 0 ∧
      loadBytes b' = some env'' ∧
      verifySignableJ C.toCryptoFns env'' (.arr [.str (C09.pubHex C.toCryptoFns seed)]) (.int 1) true = .ok () := by
  have hwf : env.WF := load_wf hstrict hload
  obtain ⟨_, ⟨⟩, _, hall⟩ := id hf
  have hnorm := normalize_of_lowerHex fpr hall
  obtain ⟨env', hsign, hver⟩ := C10.gpg_path_interoperates C G fpr seed hs hf hnorm hG env entries signed hp
  -- the new envelope is the old one with one more entry of lower-case hex strings, so it is well-formed and survives the round trip through the file;
  -- `gpg_path_interoperates` gives `env'` only up to `∃`, so its shape is read off `signRootMdDictViaGpg_ok` once more
  have hwf' : env'.WF := by
    obtain ⟨_, top, rfl, h1, _⟩ := id hp
    obtain ⟨hdr, _, _, hsig⟩ := hG.1 (ser signed)
    cases (signRootMdDictViaGpg_ok hp ((checkGpgFingerprint_iff _).mpr hf) hnorm hsig hG.2).symm.trans hsign
    have hex (b : Bytes) : StrOK (hexOfBytes b) := strOK_lowerhex _ (hexOfBytes_lower b)
    exact wf_dictSet hwf (strOK_of_small _ (by decide)) (wf_dictSet (wf_member hwf h1) (hex _)
      ⟨⟨strOK_of_small _ (by decide), hex _, strOK_of_small _ (by decide), hex _, trivial⟩,
        show [ps! "other_headers", ps! "signature"].Nodup by decide⟩)
  have hfile : signRootMdFileViaGpg G true (some b) (.str (stripAllSpaceLower fprArg)) = .ok (ser env') := by
    simp only [signRootMdFileViaGpg, loadFile, hload, harg, hsign, ok_bind, pure_eq_ok]
  refine ⟨_, _, by simp only [cliGpgSign, hfile], by simp only [cliGpgSign, hfile, exitStatus], C08.load_write _ hwf', ?_⟩
  rw [verifySignable_canon _ _ _ _ _ hwf']
  exact hver

/-- **the interactive editor writes at most once, and only the canonical serialization of the metadata it ends with**: the loop leaves the list of
writes as it was, or appends one file holding `ser` of the final metadata and then returns `None` (status 0).  Under which name it writes, and which
other sessions end with status 0, is not part of the statement -/
theorem editLoop_writes (C : CryptoFns) (G : GpgBackend) (sslib : Bool) :
    ∀ (f : Nat) (md : J) (inputs : List PStr) (w : List (PStr × Bytes)),
      ((editLoop C G sslib f md inputs w).writes = w ∨
        ∃ name, (editLoop C G sslib f md inputs w).writes = w ++ [(name, ser (editLoop C G sslib f md inputs w).md)] ∧
                (editLoop C G sslib f md inputs w).outcome = .returned none) := by
  intro f md inputs w
  -- option 0 with a file name is the one branch that writes, and it returns; the others stop with the writes as they were, or go round again
  fun_induction editLoop C G sslib f md inputs w with
  | case5 => exact .inr ⟨_, rfl, rfl⟩                          -- option 0 and a file name
  | case3 | case8 | case12 | case13 | case14 => assumption    -- round again: not a number, a key added, the threshold left or set, any other option
  | _ => exact .inl rfl

/-- **opening a stored file in the editor and writing it out unchanged persists it like any other write**: the session "0, <name>" on a loadable file
writes exactly one file, under the name typed, holding the canonical serialization of what the file held — every signature entry as it was -/
theorem edit_open_and_save (C : CryptoFns) (G : GpgBackend) (sslib : Bool) (file : Option Bytes) (md : J) (name : PStr) (more : List PStr)
    (hl : loadFile file = .ok md) :
    (cliModifyMetadata C G sslib file ([48] :: name :: more)).writes = [(name, ser md)] ∧
    (cliModifyMetadata C G sslib file ([48] :: name :: more)).outcome = .returned none := by
  unfold cliModifyMetadata
  rw [hl]
  exact ⟨rfl, rfl⟩

/-- **two holders sign through the editor, one after the other, and both signatures are in what is written**: the session "2, <key A>, 2, <key B>, 0, <name>"
on an envelope writes the envelope signed by A and then by B — the second signing keeps the first one's entry (`C09.sign_other_entries`) -/
theorem edit_two_signers (C : CryptoFns) (G : GpgBackend) (sslib : Bool) (file : Option Bytes) (md md1 md2 : J) (ka kb name : PStr)
    (hl : loadFile file = .ok md)
    (hka : isHexKeyJ (.str (stripAllSpaceLower ka)) = .ok true) (hkb : isHexKeyJ (.str (stripAllSpaceLower kb)) = .ok true)
    (h1 : signSignableJ C md (unhex (stripAllSpaceLower ka)) = .ok md1) (h2 : signSignableJ C md1 (unhex (stripAllSpaceLower kb)) = .ok md2) :
    (cliModifyMetadata C G sslib file [[50], ka, [50], kb, [48], name]).writes = [(name, ser md2)] := by
  have h0 : pyIntOfStr [48] = some 0 := by decide
  have h2' : pyIntOfStr [50] = some 2 := by decide
  simp [cliModifyMetadata, hl, editLoop, h0, h2', editAddSig, hka, hkb, h1, h2]

/-- a `modify-metadata` session writes nothing at all, or exactly one file, holding the canonical serialization of the metadata it ends with, and then
returns `None` (status 0).  The file it reads is given to the model by its bytes, without a name: nothing is stated about it -/
theorem edit_session_files (C : CryptoFns) (G : GpgBackend) (sslib : Bool) (file : Option Bytes) (inputs : List PStr) :
    (cliModifyMetadata C G sslib file inputs).writes = [] ∨
    ∃ name, (cliModifyMetadata C G sslib file inputs).writes = [(name, ser (cliModifyMetadata C G sslib file inputs).md)] ∧
      (cliModifyMetadata C G sslib file inputs).outcome = .returned none := by
  fun_cases cliModifyMetadata C G sslib file inputs with
  | case1 => exact .inl rfl                                                          -- the file does not load
  | case2 md => exact editLoop_writes C G sslib (inputs.length + 1) md inputs []     -- the session on what was loaded

-- non-vacuity of `rejected_nonzero_any_stdout`: a pair that is not accepted exists (a missing trusted file), and under every stdout state its status is 1
example (C : CryptoFns) (ep : EntryPoint) (st : Stdout) : exitStatus ep (cliVerifyUnder C st none none).1 = 1 := by
  cases st <;> rfl

end CCT.C17
