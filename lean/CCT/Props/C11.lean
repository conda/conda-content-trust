import CCT.Props.C09
import CCT.Lemmas.FileThreads
import CCT.Props.C05
import CCT.Props.C04
/-!
# C11 — repodata artifact signing is complete, faithful and client-verifiable

Model: `signRepodataJ` (`signing.py:148-213`, value level; the file it writes is `ser` of the result — see C08/C18 for the file);
several in-place signing runs at the same time: `Model/FileThreads.lean`.
-/
namespace CCT.C11
open CCT CCT.C15 CCT.C09
open Classical

/-- the entry filed for an artifact: `{<signer's public key hex>: {"signature": <hex>}}` -/
def artifactEntry (C : CryptoFns) (seed : Bytes) (md : J) : J := .obj [(pubHex C seed, sigEntry C seed md)]

theorem signEntries_eq (C : CryptoFns) (seed : Bytes) (arts sigs : List (PStr × J)) :
    signEntries C seed (hexOfBytes (C.pubOf seed)) sigs arts = arts.foldl (fun s a => dictSet s a.1 (artifactEntry C seed a.2)) sigs := by
  fun_induction signEntries C seed (hexOfBytes (C.pubOf seed)) sigs arts with
  | case1 => rfl                     -- no artifact left
  | case2 _ _ _ _ ih => exact ih     -- one more artifact

/-- the signatures section built for a document -/
def sigSection (C : CryptoFns) (seed : Bytes) (arts arts2 : List (PStr × J)) : List (PStr × J) :=
  (arts ++ arts2).foldl (fun s a => dictSet s a.1 (artifactEntry C seed a.2)) []

/-- **nothing else is touched**: by `signRepo_ok` the signed document is `dictSet top "signatures" …`, and in it every top-level field other than
`signatures` is as before -/
theorem signRepo_other_fields (top : List (PStr × J)) (x : J) (k : PStr) (hk : k ≠ ps! "signatures") :
    dictGet k (dictSet top (ps! "signatures") x) = dictGet k top := dictGet_dictSet_other hk

/-- closed form: a document with a `packages` object (and optionally a `packages.conda` object) is signed successfully, the
result being the document with its `signatures` section replaced by one entry per artifact -/
theorem signRepo_ok (C : CryptoFns) (top : List (PStr × J)) (keyHex : PStr) (hk : HexN 64 (.str keyHex)) (arts arts2 : List (PStr × J))
    (h1 : dictGet (ps! "packages") top = some (.obj arts))
    (h2 : dictGet (ps! "packages.conda") top = some (.obj arts2) ∨ (dictGet (ps! "packages.conda") top = none ∧ arts2 = [])) :
    signRepodataJ C (.obj top) (.str keyHex) =
      .ok (.obj (dictSet top (ps! "signatures") (.obj (sigSection C (unhex keyHex) arts arts2)))) := by
  -- the two artifact sections are read after `"signatures"` was reset to `{}` and are not touched by that; the reset member is then overwritten by the result
  have e1 := (signRepo_other_fields top (.obj []) _ (by decide)).trans h1
  have e2 := signRepo_other_fields top (.obj []) (ps! "packages.conda") (by decide)
  simp only [signRepodataJ, (checkHexKey_iff _).mpr hk, ok_bind, strOf_str, pyInStr_obj, dictHas_some h1, pure_eq_ok,
    Bool.not_true, Bool.false_eq_true, if_false, dictIndex_some e1, e2, signEntries_eq, dictSet_overwrite]
  rcases h2 with h2 | ⟨h2, rfl⟩
  · simp only [h2, sigSection, List.foldl_append]
  · simp only [h2, sigSection, List.append_nil]

/-- **only the two artifact sections decide what is signed**: two documents with the same `packages` and `packages.conda` members — whatever else they hold
at top level (members named like sections, stale signatures, lists of removed artifacts, …) — get the same signatures section -/
theorem other_members_do_not_matter (C : CryptoFns) (top top' : List (PStr × J)) (keyHex : PStr) (hk : HexN 64 (.str keyHex)) (arts arts2 : List (PStr × J))
    (h1 : dictGet (ps! "packages") top = some (.obj arts)) (h1' : dictGet (ps! "packages") top' = some (.obj arts))
    (h2 : dictGet (ps! "packages.conda") top = some (.obj arts2) ∨ (dictGet (ps! "packages.conda") top = none ∧ arts2 = []))
    (h2' : dictGet (ps! "packages.conda") top' = some (.obj arts2) ∨ (dictGet (ps! "packages.conda") top' = none ∧ arts2 = [])) :
    ∃ r r', signRepodataJ C (.obj top) (.str keyHex) = .ok (.obj r) ∧ signRepodataJ C (.obj top') (.str keyHex) = .ok (.obj r') ∧
      dictGet (ps! "signatures") r = some (.obj (sigSection C (unhex keyHex) arts arts2)) ∧
      dictGet (ps! "signatures") r' = some (.obj (sigSection C (unhex keyHex) arts arts2)) :=
  ⟨_, _, signRepo_ok C top keyHex hk arts arts2 h1 h2, signRepo_ok C top' keyHex hk arts arts2 h1' h2', dictGet_dictSet_same, dictGet_dictSet_same⟩

/-- the in-place signing of a repodata file as a job: parse, `sign_all_in_repodata` at value level, canonical bytes of the result -/
def signRepoJob (C : CryptoFns) (name : PStr) (keyHex : PStr) : FileJob :=
  { name := name
    run := fun content => match content with
      | none => none
      | some b => match loadBytes b with
        | none => none
        | some doc => match signRepodataJ C doc (.str keyHex) with
          | .ok doc' => some (ser doc')
          | .error _ => none }

/-- **runs on different files do not disturb one another, under any schedule**: any family of in-place jobs on pairwise different file names, any
interleaving of their reads, computations and writes — every job that has finished has left in its file exactly what it leaves when it runs alone on the
original file system (its result on the file's *original* content; the original content if it failed), every file that is no job's is untouched -/
theorem concurrent_jobs_independent (jobs : Nat → FileJob) (hd : ∀ i j, (jobs i).name = (jobs j).name → i = j) (fs0 : FS) (sched : List Nat)
    (ts0 : Nat → FLocal) (h0 : ∀ i, (ts0 i).pc = 0) :
    (∀ i, 3 ≤ ((runJobs jobs fs0 ts0 sched).2 i).pc → (runJobs jobs fs0 ts0 sched).1 (jobs i).name = jobResult (jobs i) fs0) ∧
    (∀ x, (∀ j, (jobs j).name ≠ x) → (runJobs jobs fs0 ts0 sched).1 x = fs0 x) := by
  have inv := FInv.run jobs hd fs0 sched fs0 ts0 (FInv.init jobs fs0 ts0 h0)
  refine ⟨fun i hi => ?_, inv.others⟩
  rcases inv.threads i with ⟨h, _⟩ | ⟨h, _⟩ | ⟨h, _⟩ | ⟨_, hr⟩
  · omega
  · omega
  · omega
  · exact hr

/-- two signing runs on two different files (say `linux-64/repodata.json` and `noarch/repodata.json`) with two keys: whatever the schedule, once both
have finished each file holds what signing it alone gives -/
theorem two_signing_runs (C : CryptoFns) (a b ka kb : PStr) (hab : a ≠ b) (fs0 : FS) (sched : List Nat) (ts0 : Nat → FLocal) (h0 : ∀ i, (ts0 i).pc = 0)
    (jobs : Nat → FileJob) (hj0 : jobs 0 = signRepoJob C a ka) (hj1 : jobs 1 = signRepoJob C b kb)
    (hd : ∀ i j, (jobs i).name = (jobs j).name → i = j)
    (hf0 : 3 ≤ ((runJobs jobs fs0 ts0 sched).2 0).pc) (hf1 : 3 ≤ ((runJobs jobs fs0 ts0 sched).2 1).pc) :
    (runJobs jobs fs0 ts0 sched).1 a = jobResult (signRepoJob C a ka) fs0 ∧ (runJobs jobs fs0 ts0 sched).1 b = jobResult (signRepoJob C b kb) fs0 := by
  obtain ⟨hfin, _⟩ := concurrent_jobs_independent jobs hd fs0 sched ts0 h0
  have e0 := hfin 0 hf0
  have e1 := hfin 1 hf1
  rw [hj0] at e0
  rw [hj1] at e1
  have _ := hab     -- not needed: `hd` with `hj0`, `hj1` gives it
  exact ⟨e0, e1⟩

/-- no single step of a job changes any file but its own (not even transiently) -/
theorem stepJob_frame (jb : FileJob) (fs : FS) (st : FLocal) (x : PStr) (hx : x ≠ jb.name) : (stepJob jb fs st).1 x = fs x :=
  stepJob_other jb fs st x hx

/-- a job run alone is read, compute, write: its file ends as `jobResult` says -/
theorem job_alone (jb : FileJob) (fs0 : FS) (ts : Nat → FLocal) (h0 : (ts 0).pc = 0) :
    (runJobs (fun _ => jb) fs0 ts [0, 0, 0]).1 jb.name = jobResult jb fs0 := by
  simp only [runJobs, stepJob, h0, jobResult, if_true, Option.map]
  cases jb.run (fs0 jb.name) with
  | none => rfl
  | some b => exact FS.get_put_same _ _ _

-- non-vacuity: two jobs on two names, their steps interleaved one by one — each file ends as its own job makes it; on the *same* name the hypothesis
-- fails and so does the conclusion (the second writer wins with a result computed from the content it read first)
example :
    let ja : FileJob := { name := [97], run := fun c => c.map (· ++ [1]) }
    let jb : FileJob := { name := [98], run := fun c => c.map (· ++ [2]) }
    let fs0 : FS := fun n => if n = [97] then some [10] else if n = [98] then some [20] else none
    let fin := runJobs (fun i => if i = 0 then ja else jb) fs0 (fun _ => {}) [0, 1, 1, 0, 1, 0]
    fin.1 [97] = some [10, 1] ∧ fin.1 [98] = some [20, 2] ∧ fin.1 [99] = none := by
  decide
example :
    let ja : FileJob := { name := [97], run := fun c => c.map (· ++ [1]) }
    let jb : FileJob := { name := [97], run := fun c => c.map (· ++ [2]) }
    let fs0 : FS := fun n => if n = [97] then some [10] else none
    (runJobs (fun i => if i = 0 then ja else jb) fs0 (fun _ => {}) [0, 1, 0, 0, 1, 1]).1 [97] = some [10, 2] := by
  decide

/-- **exactly one entry per artifact, stale entries gone**: the keys of the new signatures section are exactly the artifact names of
both sections — whatever the old signatures section contained -/
theorem sigSection_keys (C : CryptoFns) (seed : Bytes) (arts arts2 : List (PStr × J)) (k : PStr) :
    k ∈ (sigSection C seed arts arts2).map (·.1) ↔ k ∈ (arts ++ arts2).map (·.1) := by
  rw [sigSection, keys_foldl_dictSet]
  exact or_iff_right List.not_mem_nil

theorem sigSection_nodup (C : CryptoFns) (seed : Bytes) (arts arts2 : List (PStr × J)) : ((sigSection C seed arts arts2).map (·.1)).Nodup :=
  nodup_foldl_dictSet _ _ _ [] List.nodup_nil

/-- **each artifact's entry** is `artifactEntry`: the signature, filed under the signer's public key, over the canonical bytes of that
artifact's own metadata (artifact names distinct across both sections) -/
theorem sigSection_entry (C : CryptoFns) (seed : Bytes) (arts arts2 : List (PStr × J)) (hn : ((arts ++ arts2).map (·.1)).Nodup)
    (n : PStr) (md : J) (hm : (n, md) ∈ arts ++ arts2) :
    dictGet n (sigSection C seed arts arts2) = some (artifactEntry C seed md) :=
  dictGet_foldl_dictSet_of_nodup (·.1) (fun a => artifactEntry C seed a.2) _ [] hn (n, md) hm

/-- what a client does with an artifact: wrap its metadata, attach the entry, verify through a `pkg_mgr` delegation -/
def clientEnvelope (entry md : J) : J := .obj [(ps! "signatures", entry), (ps! "signed", md)]

/-- **client-verifiable**: the reconstructed envelope meets a `pkg_mgr` rule listing the signer's key with threshold 1 -/
theorem client_rule_met (C : Crypto) (seed : Bytes) (hs : seed.length = 32) (md d : J)
    (hd : keysOf d = [pubHex C.toCryptoFns seed]) (ht : thrOf d = 1) :
    RuleMet C.toCryptoFns false d (clientEnvelope (artifactEntry C.toCryptoFns seed md) md) := by
  rw [RuleMet, hd, ht]
  show ThresholdMet _ false _ (ser md) [(pubHex C.toCryptoFns seed, sigEntry C.toCryptoFns seed md)] 1
  exact thresholdMet_one (List.mem_singleton_self _) (own_entry_counts C seed hs md _ (List.mem_singleton_self _))

/-- the envelope a client reconstructs for an artifact is accepted by `verify_delegation("pkg_mgr", …)` under any well-formed trusted metadata that
delegates `pkg_mgr` to the signer's key with threshold 1 (unless the artifact metadata is itself delegating metadata of another type, which C06
demands be rejected) -/
theorem client_verifies (C : Crypto) (seed : Bytes) (hs : seed.length = 32) (md t d : J) (hT : Schema t)
    (hr : roleOf t (ps! "pkg_mgr") = some d) (hd : keysOf d = [pubHex C.toCryptoFns seed]) (ht : thrOf d = 1)
    (hm : ¬ TypeMismatch (ps! "pkg_mgr") (clientEnvelope (artifactEntry C.toCryptoFns seed md) md)) :
    verifyDelegationJ C.toCryptoFns (ps! "pkg_mgr") (clientEnvelope (artifactEntry C.toCryptoFns seed md) md) t false = .ok () :=
  (C05.verifyDelegation_iff _ _ _ _ _).mpr ⟨hT, (envParts_literal _ md).signable, hm, d, hr, client_rule_met C seed hs md d hd ht⟩

/-- **a signature never verifies against another artifact's different metadata — or a forgery is exhibited** -/
theorem cross_artifact_or_forgery (C : Crypto) (seed : Bytes) (hs : seed.length = 32) (md md' : J) (auth : List PStr)
    (h : Counts C.toCryptoFns false auth (ser md') (pubHex C.toCryptoFns seed) (sigEntry C.toCryptoFns seed md)) :
    C.verify (C.pubOf seed) (ser md') (C.sign seed (ser md)) = true := edit_invalidates_or_forgery C seed hs md md' auth h

/-- **signing again changes nothing**: the signatures section is a function of the artifacts and the key alone -/
theorem signRepo_idempotent (C : CryptoFns) (top : List (PStr × J)) (keyHex : PStr) (hk : HexN 64 (.str keyHex)) (arts arts2 : List (PStr × J))
    (h1 : dictGet (ps! "packages") top = some (.obj arts))
    (h2 : dictGet (ps! "packages.conda") top = some (.obj arts2) ∨ (dictGet (ps! "packages.conda") top = none ∧ arts2 = []))
    (doc' : J) (hd : signRepodataJ C (.obj top) (.str keyHex) = .ok doc') : signRepodataJ C doc' (.str keyHex) = .ok doc' := by
  rw [signRepo_ok C top keyHex hk arts arts2 h1 h2] at hd
  cases hd
  rw [signRepo_ok C _ keyHex hk arts arts2 ((signRepo_other_fields top _ _ (by decide)).trans h1)
    (by rwa [signRepo_other_fields top _ _ (by decide)]), dictSet_overwrite]

/-- **the whole chain of authority behind an accepted artifact**: a client that starts from root `init`, replaces its root only by updates the
library accepts, accepts `km` as `key_mgr` metadata under the root it then holds, and accepts an artifact envelope under `km`'s `pkg_mgr`
delegation has — at every link — threshold-many distinct keys named by the *previous* link with valid signatures: the root is reached from
`init` by properly signed single-version steps (C04), `km` meets the root's `key_mgr` rule, the artifact meets `km`'s `pkg_mgr` rule -/
theorem chain_of_authority (C : CryptoFns) (init : J) (offers : List J) (km env : J)
    (h1 : verifyDelegationJ C (ps! "key_mgr") km (C04.run C init offers) false = .ok ())
    (h2 : verifyDelegationJ C (ps! "pkg_mgr") env km false = .ok ()) :
    C04.Chain C init (C04.run C init offers) ∧
    (∃ d1, roleOf (C04.run C init offers) (ps! "key_mgr") = some d1 ∧ RuleMet C false d1 km) ∧
    (∃ d2, roleOf km (ps! "pkg_mgr") = some d2 ∧ RuleMet C false d2 env) ∧
    ¬ TypeMismatch (ps! "key_mgr") km ∧ ¬ TypeMismatch (ps! "pkg_mgr") env := by
  obtain ⟨_, _, m1, d1, r1, q1⟩ := (C05.verifyDelegation_iff C _ km _ false).mp h1
  obtain ⟨_, _, m2, d2, r2, q2⟩ := (C05.verifyDelegation_iff C _ env km false).mp h2
  exact ⟨C04.chain_integrity C init offers, ⟨d1, r1, q1⟩, ⟨d2, r2, q2⟩, m1, m2⟩

end CCT.C11
