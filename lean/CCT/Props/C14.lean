import CCT.Lemmas.Rules
import CCT.Props.C03
import CCT.Props.C05
/-!
# C14 — the delegating-metadata checker enforces exactly the documented schema

`Schema` (CCT/Lemmas/Checker.lean) is written from the documented structure: a two-field signed envelope whose signature
values are all well-formed entries and whose signed part (`SignedOK`) has a supported type, a spec-version string, well-formed
delegations (`DelegationOK`: duplicate-free list of well-formed keys + an `int` threshold ≥ 1), a well-formed UTC expiration, at
least one of version/timestamp (version mandatory for root), each well formed if present.
-/
namespace CCT.C14
open CCT CCT.C15
open Classical

/-- **the checker accepts an object if and only if it satisfies the documented schema** -/
theorem checker_iff_schema (m : J) : checkDelegatingMdJ m = .ok () ↔ Schema m := by
  rw [checkDelegatingMd_eq]; exact ok_iff

/-- the checker either accepts or raises an argument error (TypeError/ValueError): never anything else -/
theorem checker_total (m : J) : checkDelegatingMdJ m = .ok () ∨ checkDelegatingMdJ m = .error .arg := by
  rw [checkDelegatingMd_eq]; split <;> simp

theorem delegation_iff (d : J) : checkDelegationJ d = .ok () ↔ DelegationOK d := by
  rw [checkDelegation_eq]; exact ok_iff

theorem delegations_iff (d : J) : checkDelegationsJ d = .ok () ↔ DelegationsOK d := by
  rw [checkDelegations_eq]; exact ok_iff

theorem utc_iff (v : J) : checkUtcJ v = .ok () ↔ WfUtc v := by
  rw [checkUtc_eq]; exact ok_iff

theorem naturalInt_iff (v : J) : checkNaturalIntJ v = .ok () ↔ NaturalInt v := by
  rw [checkNaturalInt_eq]; exact ok_iff

/-- thresholds and versions are integers ≥ 1, or `True` (an `int` for `isinstance`, equal to 1): no float, string or null passes, and `0`, negatives
and `False` do not either -/
theorem naturalInt_cases (v : J) (h : NaturalInt v) : (∃ z : Int, v = .int z ∧ 1 ≤ z) ∨ v = .bool true :=
  h.cases

/-- **every change that removes a required field is rejected** -/
theorem required_field_removed (kvs : List (PStr × J)) (hn : (kvs.map (·.1)).Nodup) (f : PStr)
    (hf : f ∈ [ps! "type", ps! "metadata_spec_version", ps! "delegations", ps! "expiration"]) :
    ¬ SignedOK (.obj (dictDel f kvs)) := fun h => by
  have := h.required f hf
  rw [dictHas, dictGet_dictDel_self kvs f hn] at this
  cases this

/-- version is mandatory for root metadata -/
theorem root_needs_version (kvs : List (PStr × J)) (hty : dictGet (ps! "type") kvs = some (.str (ps! "root")))
    (hv : dictGet (ps! "version") kvs = none) : ¬ SignedOK (.obj kvs) := by
  rintro ⟨k', e, _, _, _, _, _, h, _⟩; cases e
  have := h hty; simp [dictHas, hv] at this

/-- at least one of version and timestamp -/
theorem needs_version_or_timestamp (kvs : List (PStr × J)) (h1 : dictGet (ps! "version") kvs = none)
    (h2 : dictGet (ps! "timestamp") kvs = none) : ¬ SignedOK (.obj kvs) := by
  rintro ⟨k', e, _, _, _, _, h, _⟩; cases e
  simp [dictHas, h1, h2] at h

/-- a duplicated key in a delegation's key list is rejected, under any spelling that the key validator accepts (there is only one) -/
theorem duplicate_key_rejected (ks : List J) (h : ¬ ((ks.map strOf).map unhex).Nodup) : ¬ KeyListOK (.arr ks) := by
  intro hk
  exact h (keylist_nodup_bytes ks (by rw [checkListOfHexKeys_eq, if_pos hk]))

/-- **`verify_delegation` never runs into an internal error**: it ends in acceptance or in one of its documented errors.  The statement is for
`verify_delegation` alone (for `verify_root`: `C03.verifyRoot_outcomes`) and for all arguments: the hypothesis that the checker accepts the trusted
metadata is not used -/
theorem accepted_never_internal (C : CryptoFns) (name : PStr) (u t : J) (gpg : Bool) (_ht : checkDelegatingMdJ t = .ok ()) :
    (verifyDelegationJ C name u t gpg).toBool = true ∨ ∃ e, verifyDelegationJ C name u t gpg = .error e ∧ e.documented = true := by
  rcases verifyDelegation_outcomes C name u t gpg with h | ⟨e, h, he⟩
  · exact .inl (h ▸ rfl)
  · exact .inr ⟨e, h, by rcases he with rfl | rfl | rfl | rfl <;> rfl⟩

/-- **the checker does not look at what the unsigned signature map is indexed by**: two envelopes with the same signed part whose signature maps hold the
same entry *values* — filed under whatever indexes: other spellings of a key id, junk, the same entry twice under two spellings — get the same verdict -/
theorem signature_indexes_irrelevant (m m' : J) (entries entries' : List (PStr × J)) (signed : J)
    (hp : EnvParts m entries signed) (hp' : EnvParts m' entries' signed)
    (hv : ∀ v, v ∈ entries.map (·.2) ↔ v ∈ entries'.map (·.2)) :
    checkDelegatingMdJ m = checkDelegatingMdJ m' := by
  have key : (∀ p ∈ entries, AnySigOK p.2) ↔ ∀ p ∈ entries', AnySigOK p.2 := by
    have := fun (l : List (PStr × J)) => List.forall_mem_map (l := l) (f := (·.2)) (P := AnySigOK)
    rw [← this, ← this]
    exact forall_congr' fun v => by rw [hv v]
  rw [checkDelegatingMd_eq, checkDelegatingMd_eq]
  exact ite_cond_congr (propext (by rw [schema_iff_parts hp, schema_iff_parts hp', key]))

-- non-vacuity: a concrete document satisfying the schema, and the checker accepting it
def sampleMd : J :=
  .obj [(ps! "signatures", .obj []),
        (ps! "signed", .obj [(ps! "type", .str (ps! "root")), (ps! "metadata_spec_version", .str (ps! "0.6.0")),
          (ps! "delegations", .obj [(ps! "root", .obj [(ps! "pubkeys", .arr [.str (List.replicate 64 97)]), (ps! "threshold", .int 1)])]),
          (ps! "expiration", .str (ps! "2031-07-13T05:46:45Z")), (ps! "version", .int 1)])]
example : checkDelegatingMdJ sampleMd = .ok () := by decide +kernel
example : Schema sampleMd := (checker_iff_schema _).mp (by decide +kernel)

end CCT.C14
