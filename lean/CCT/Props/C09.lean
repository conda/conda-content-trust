import CCT.Lemmas.SignThreads
import CCT.Props.C02
/-!
# C09 — sign-then-verify round trip, signer binding, determinism, order independence

Model: `wrapAsSignable`, `signSignableJ` (`signing.py:61-145`); several signers at work on one envelope at the same time:
`Model/SignThreads.lean`.  `C : Crypto` carries the only laws assumed of the scheme (signature and key lengths, bytes are bytes,
`verify (pubOf s) m (sign s m)`); nothing about unforgeability.
-/
namespace CCT.C09
open CCT CCT.C15
open Classical

def pubHex (C : CryptoFns) (seed : Bytes) : PStr := hexOfBytes (C.pubOf seed)
def sigEntry (C : CryptoFns) (seed : Bytes) (signed : J) : J := sigDictOf (serializeAndSign C signed seed)

theorem pubHex_key (C : Crypto) (seed : Bytes) (h : seed.length = 32) : HexN 64 (.str (pubHex C.toCryptoFns seed)) :=
  hexN_hexOfBytes (C.pub_len seed h)

theorem sigEntry_raw (C : Crypto) (seed : Bytes) (h : seed.length = 32) (signed : J) : RawShape (sigEntry C.toCryptoFns seed signed) :=
  ⟨_, rfl, rfl, _, rfl, hexN_hexOfBytes (C.sign_len seed _ h)⟩

/-- **signing**: succeeds on every signable envelope, leaves the payload and every other signer's entry untouched, and files the
entry `sigEntry` (well-formed: `sigEntry_raw`) under the hex of the signer's public key -/
theorem sign_ok (C : Crypto) (env : J) (entries : List (PStr × J)) (signed : J) (hp : EnvParts env entries signed) (seed : Bytes)
    (hs : seed.length = 32) :
    ∃ env', signSignableJ C.toCryptoFns env seed = .ok env' ∧
      EnvParts env' (dictSet entries (pubHex C.toCryptoFns seed) (sigEntry C.toCryptoFns seed signed)) signed := by
  obtain ⟨top, rfl, -⟩ := hp.top
  refine ⟨_, ?_, envParts_set_entries hp _⟩
  obtain ⟨hsg, _, h, h1, h2⟩ := hp
  cases h
  have hchk : checkSignatureJ (sigDictOf (serializeAndSign C.toCryptoFns signed seed)) = .ok () :=
    (checkSignature_iff _).mpr (Or.inl (sigEntry_raw C seed hs signed))
  simp only [signSignableJ, checkSignableJ, hsg, if_true, okU, ok_bind, dictIndex_some h1, dictIndex_some h2, hchk, pure_eq_ok, pubHex, sigEntry]

/-- signing touches only the signer's own entry: in the signature map of `sign_ok`, a lookup under any other key finds what it found before -/
theorem sign_other_entries (k : PStr) (entries : List (PStr × J)) (C : CryptoFns) (seed : Bytes) (signed : J) (h : k ≠ pubHex C seed) :
    dictGet k (dictSet entries (pubHex C seed) (sigEntry C seed signed)) = dictGet k entries :=
  dictGet_dictSet_other h

/-- **deterministic and idempotent**: signing again with the same key changes nothing.  The signature is a function of key and payload, so the second
`sign_signable` does the same `dictSet` (`sign_ok`) again, and that leaves the signature map as it is -/
theorem sign_idempotent (entries : List (PStr × J)) (C : CryptoFns) (seed : Bytes) (signed : J) :
    dictSet (dictSet entries (pubHex C seed) (sigEntry C seed signed)) (pubHex C seed) (sigEntry C seed signed)
      = dictSet entries (pubHex C seed) (sigEntry C seed signed) := dictSet_overwrite _ _ _ _

/-- **order independent**: two signers in either order leave the same signature map (as a mapping).  Each does one `dictSet` under its own key
(`sign_ok`); this is the fact about two such updates under different keys -/
theorem sign_commute (entries : List (PStr × J)) (k1 k2 : PStr) (v1 v2 : J) (h : k1 ≠ k2) (x : PStr) :
    dictGet x (dictSet (dictSet entries k1 v1) k2 v2) = dictGet x (dictSet (dictSet entries k2 v2) k1 v1) := by
  -- both sides look `x` up in the same table: `k1 ↦ v1`, `k2 ↦ v2`, else `entries`
  rw [dictGet_dictSet, dictGet_dictSet, dictGet_dictSet, dictGet_dictSet]
  by_cases h1 : x = k1
  · rw [if_neg (h1 ▸ h), if_pos h1, if_pos h1]
  · rw [if_neg h1, if_neg h1]

/-- the library's entry for payload `p` has the form that counts; whether it counts over the bytes `data`, its key being authorized, is a question to the scheme alone -/
theorem counts_sigEntry (C : Crypto) (seed : Bytes) (hs : seed.length = 32) (p : J) (auth : List PStr) (data : Bytes) :
    Counts C.toCryptoFns false auth data (pubHex C.toCryptoFns seed) (sigEntry C.toCryptoFns seed p) ↔
      pubHex C.toCryptoFns seed ∈ auth ∧ C.verify (C.pubOf seed) data (C.sign seed (ser p)) = true := by
  have e : unhex (strOf (entryField (ps! "signature") (sigEntry C.toCryptoFns seed p))) = C.sign seed (ser p) :=
    unhex_hexOfBytes _ (C.sign_byte seed _ hs)
  simp only [Counts, Bool.false_eq_true, if_false, e, pubHex, unhex_hexOfBytes _ (C.pub_byte seed hs)]
  exact ⟨fun h => ⟨h.2.1, h.2.2.2⟩, fun h => ⟨pubHex_key C seed hs, h.1, Or.inl (sigEntry_raw C seed hs p), h.2⟩⟩

/-- the library's own entry counts for its signer whenever that key is authorized -/
theorem own_entry_counts (C : Crypto) (seed : Bytes) (hs : seed.length = 32) (signed : J) (auth : List PStr)
    (ha : pubHex C.toCryptoFns seed ∈ auth) :
    Counts C.toCryptoFns false auth (ser signed) (pubHex C.toCryptoFns seed) (sigEntry C.toCryptoFns seed signed) :=
  (counts_sigEntry C seed hs signed auth _).mpr ⟨ha, C.correct seed _ hs⟩

/-- signing by a list of seeds, as repeated `sign_signable` -/
def signAll (C : CryptoFns) (signed : J) (entries : List (PStr × J)) (seeds : List Bytes) : List (PStr × J) :=
  seeds.foldl (fun e s => dictSet e (pubHex C s) (sigEntry C s signed)) entries

/-- **threshold boundary**: an envelope wrapped and signed by `n` distinct keys, all authorized, meets every threshold
`t ≤ n` and none above `n` -/
theorem threshold_boundary (C : Crypto) (signed : J) (seeds : List Bytes) (hlen : ∀ s ∈ seeds, s.length = 32)
    (hn : (seeds.map (pubHex C.toCryptoFns)).Nodup) (auth : List PStr) (ha : ∀ s ∈ seeds, pubHex C.toCryptoFns s ∈ auth) (t : Nat) :
    ThresholdMet C.toCryptoFns false auth (ser signed) (signAll C.toCryptoFns signed [] seeds) t ↔ t ≤ seeds.length := by
  -- the keys under which an entry counts are exactly the signers' keys, and these are distinct
  rw [← List.length_map (pubHex C.toCryptoFns)]
  refine (le_length_iff_exists_nodup hn (fun k => ⟨fun hk => ?_, fun ⟨_, hm, _⟩ => ?_⟩) t).symm
  · obtain ⟨s, hs, rfl⟩ := List.mem_map.mp hk
    exact ⟨_, mem_of_dictGet (dictGet_foldl_dictSet_of_nodup _ _ seeds [] hn s hs), own_entry_counts C s (hlen s hs) signed auth (ha s hs)⟩
  · exact ((keys_foldl_dictSet _ _ k seeds []).mp (List.mem_map_of_mem (f := (·.1)) hm)).resolve_left nofun

/-- **any later change of the payload makes every earlier signature stop counting — or exhibits a forgery**: if an entry made by the
library for payload `p` still counts after the payload was replaced by `p'`, then the scheme accepts one signature for two
different byte strings (`ser p' ≠ ser p` whenever the JSON values differ, by C07) -/
theorem edit_invalidates_or_forgery (C : Crypto) (seed : Bytes) (hs : seed.length = 32) (p p' : J) (auth : List PStr)
    (h : Counts C.toCryptoFns false auth (ser p') (pubHex C.toCryptoFns seed) (sigEntry C.toCryptoFns seed p)) :
    C.verify (C.pubOf seed) (ser p') (C.sign seed (ser p)) = true :=
  ((counts_sigEntry C seed hs p auth _).mp h).2

/-- end to end for one signer: wrap, sign, verify with that key authorized -/
theorem wrap_sign_verify (C : Crypto) (v : J) (seed : Bytes) (hs : seed.length = 32) :
    ∃ env env', wrapAsSignable (.j v) = .ok env ∧ signSignableJ C.toCryptoFns env seed = .ok env' ∧
      verifySignableJ C.toCryptoFns env' (.arr [.str (pubHex C.toCryptoFns seed)]) (.int 1) false = .ok () := by
  obtain ⟨env', hsig, hp'⟩ := sign_ok C _ [] v (envParts_literal [] v) seed hs
  exact ⟨_, env', rfl, hsig, verifySignable_one hp' mem_dictSet_self (own_entry_counts C seed hs v _ (List.mem_singleton_self _))⟩

/-- one signer thread run alone does what `sign_signable` does to the signature map: `entries[pubhex] = entry` -/
theorem signer_alone (sg : Signer) (sigs0 : List (PStr × J)) (p0 : J) (ts : Nat → SLocal) (h0 : (ts 0).pc = 0) :
    (runSigners stepInPlace (fun _ => sg) ⟨sigs0, p0⟩ ts [0, 0, 0]).1.sigs = dictSet sigs0 sg.key (sg.entryOf p0) := by
  simp [runSigners, stepInPlace, h0]

/-- the signer thread of a key is the model of `sign_signable` with that key (same index, same entry) -/
theorem signerOf_is_sign_signable (C : CryptoFns) (seed : Bytes) (signed : J) :
    (signerOf C seed).key = pubHex C seed ∧ (signerOf C seed).entryOf signed = sigEntry C seed signed := ⟨rfl, rfl⟩

/-- **signing touches only the signer's own entry — also when signers run concurrently.**  Any family of signer threads started on one shared envelope,
under *every* schedule (any interleaving of their reads, computations and stores, threads finished or not): the payload is untouched; every thread that has
finished finds, under its key id, the entry it computed (when signers filing under one key id compute one entry — e.g. distinct keys, or the same key
twice); every index that is no signer's key id holds what it held before. -/
theorem concurrent_signers (signers : Nat → Signer) (p0 : J) (sigs0 : List (PStr × J)) (sched : List Nat) (ts0 : Nat → SLocal)
    (h0 : ∀ i, (ts0 i).pc = 0) (hsame : ∀ i j, (signers i).key = (signers j).key → (signers i).entryOf p0 = (signers j).entryOf p0) :
    (runSigners stepInPlace signers ⟨sigs0, p0⟩ ts0 sched).1.signed = p0 ∧
    (∀ i, 3 ≤ ((runSigners stepInPlace signers ⟨sigs0, p0⟩ ts0 sched).2 i).pc →
        dictGet (signers i).key (runSigners stepInPlace signers ⟨sigs0, p0⟩ ts0 sched).1.sigs = some ((signers i).entryOf p0)) ∧
    (∀ x, (∀ j, (signers j).key ≠ x) → dictGet x (runSigners stepInPlace signers ⟨sigs0, p0⟩ ts0 sched).1.sigs = dictGet x sigs0) := by
  have inv := SInv.run signers p0 sigs0 sched _ _ (SInv.init signers p0 sigs0 ts0 h0)
  refine ⟨inv.signed, fun i hi => ?_, fun x hx => ?_⟩
  · rcases inv.threads i with h | ⟨h, _⟩ | ⟨h, _⟩ | ⟨_, j, hj, hg⟩
    · omega
    · omega
    · omega
    · rw [hg, hsame j i hj]
  · rcases inv.others x with h | ⟨j, _, hj, _⟩
    · exact h
    · exact absurd hj (hx j)

/-- **not even transiently**: no single step of a signer changes what any index other than its own key id holds, nor the payload — at every intermediate
state of every schedule the other entries are there, unaltered (what the harness observes with a logging dict subclass in place of the map) -/
theorem inPlace_step_frame (sg : Signer) (sh : Envelope) (st : SLocal) (x : PStr) (hx : x ≠ sg.key) :
    dictGet x (stepInPlace sg sh st).1.sigs = dictGet x sh.sigs ∧ (stepInPlace sg sh st).1.signed = sh.signed := by
  fun_cases stepInPlace sg sh st with
  | case3 => exact ⟨dictGet_dictSet_other hx, rfl⟩     -- the store, under the signer's own key
  | _ => exact ⟨rfl, rfl⟩

/-- sequential signing by the signers numbered in `l`, one after the other -/
def signSeq (signers : Nat → Signer) (p0 : J) (sigs0 : List (PStr × J)) (l : List Nat) : List (PStr × J) :=
  l.foldl (fun e i => dictSet e (signers i).key ((signers i).entryOf p0)) sigs0

/-- **concurrent = sequential.**  Threads `0 … n-1` sign one envelope concurrently under any schedule that names only them; once all have finished, the
shared signature map answers every lookup exactly like the map obtained by letting them sign one after the other, in the order `0, …, n-1`. -/
theorem concurrent_eq_sequential (signers : Nat → Signer) (p0 : J) (sigs0 : List (PStr × J)) (n : Nat) (sched : List Nat) (ts0 : Nat → SLocal)
    (h0 : ∀ i, (ts0 i).pc = 0) (hsched : ∀ i ∈ sched, i < n)
    (hsame : ∀ i j, (signers i).key = (signers j).key → (signers i).entryOf p0 = (signers j).entryOf p0)
    (hfin : ∀ i, i < n → 3 ≤ ((runSigners stepInPlace signers ⟨sigs0, p0⟩ ts0 sched).2 i).pc) (x : PStr) :
    dictGet x (runSigners stepInPlace signers ⟨sigs0, p0⟩ ts0 sched).1.sigs = dictGet x (signSeq signers p0 sigs0 (List.range n)) := by
  have inv := SInv.run signers p0 sigs0 sched _ _ (SInv.init signers p0 sigs0 ts0 h0)
  obtain ⟨_, hmine, _⟩ := concurrent_signers signers p0 sigs0 sched ts0 h0 hsame
  by_cases hx : ∃ i, i < n ∧ (signers i).key = x
  · obtain ⟨i, hi, rfl⟩ := hx
    rw [hmine i (hfin i hi)]
    exact (dictGet_foldl_dictSet_of_mem _ (fun i => (signers i).entryOf p0) _ sigs0 i (List.mem_range.mpr hi) fun b _ e => hsame b i e).symm
  · rw [signSeq, dictGet_foldl_dictSet_of_not_mem _ _ x _ sigs0 fun i hi e => hx ⟨i, List.mem_range.mp hi, e⟩]
    rcases inv.others x with h | ⟨j, hj3, hj, _⟩
    · exact h
    · -- a finished signer filing under `x` would be one of the first `n`: the others never ran
      exfalso
      by_cases hjn : j < n
      · exact hx ⟨j, hjn, hj⟩
      · have := runSigners_untouched stepInPlace signers j sched ⟨sigs0, p0⟩ ts0 (fun hm => hjn (hsched j hm))
        rw [this, h0 j] at hj3
        omega

/-- the copying variant (`new = dict(signable["signatures"]); …; signable["signatures"] = new`) is *not* safe: on the schedule in which the second signer
copies the map before the first has stored its entry and assigns it back afterwards, the first signer's entry is gone although both have finished -/
theorem copying_signers_lose_entry :
    let a : Signer := { key := [97], entryOf := fun _ => .str [49] }
    let b : Signer := { key := [98], entryOf := fun _ => .str [50] }
    let fin := runSigners stepCopying (fun i => if i = 0 then a else b) ⟨[], .null⟩ (fun _ => {}) [0, 1, 0, 0, 0, 1, 1, 1]
    (fin.2 0).pc = 4 ∧ (fin.2 1).pc = 4 ∧ dictKeys fin.1.sigs = [[98]] := by
  decide

-- the same two signers under the corresponding schedule of the code's three-step threads: both entries are there
example :
    let a : Signer := { key := [97], entryOf := fun _ => .str [49] }
    let b : Signer := { key := [98], entryOf := fun _ => .str [50] }
    let fin := runSigners stepInPlace (fun i => if i = 0 then a else b) ⟨[], .null⟩ (fun _ => {}) [0, 1, 0, 0, 1, 1]
    dictKeys fin.1.sigs = [[97], [98]] := by
  decide

-- non-vacuity: the laws are satisfiable (a toy scheme with 32-byte keys and 64-byte tags)
def toyCrypto : Crypto where
  verify pub msg sig := sig == List.replicate 64 ((pub.foldl (· + ·) 0 + msg.foldl (· + ·) 0) % 256)
  sign seed msg := List.replicate 64 (((seed.map (· % 256)).foldl (· + ·) 0 + msg.foldl (· + ·) 0) % 256)
  pubOf seed := seed.map (· % 256)
  sha256 m := List.replicate 32 (m.foldl (· + ·) 0 % 256)
  sign_len _ _ _ := List.length_replicate
  sign_byte _ _ _ b hb := List.eq_of_mem_replicate hb ▸ Nat.mod_lt _ (by decide)
  pub_len _ h := (List.length_map _).trans h
  pub_byte _ _ b hb := have ⟨_, _, e⟩ := List.mem_map.mp hb; e ▸ Nat.mod_lt _ (by decide)
  correct _ _ _ := beq_self_eq_true _

end CCT.C09
