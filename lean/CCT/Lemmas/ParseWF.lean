import CCT.Lemmas.JsonWF
/-!
Parser soundness: whatever `parse` returns for text without raw surrogate code points is a well-formed JSON value (`J.WF`).
Every file the library writes is ASCII, and every valid UTF-8 file decodes to text without surrogates; so every value that was loaded from
such a file (`load_wf`, `load_wf_ascii`) meets the `WF` hypothesis of the persistence theorems (C07, C08, C04).
-/
namespace CCT

/-- a code point that strict UTF-8 can carry: below 0x110000 and not a surrogate -/
def OKc (c : Nat) : Prop := c < 0xd800 ∨ (0xe000 ≤ c ∧ c < 0x110000)
def AllOK (s : Txt) : Prop := ∀ c ∈ s, OKc c

theorem AllOK.tail {c : Nat} {s : Txt} (h : AllOK (c :: s)) : AllOK s := fun x hx => h x (by simp [hx])
theorem AllOK.head {c : Nat} {s : Txt} (h : AllOK (c :: s)) : OKc c := h c (by simp)

theorem strOK_append_one (s : PStr) (x : Nat) : StrOK s → x < 0x110000 → (∀ h, s.getLast? = some h → ¬ (isHigh h ∧ isLow x)) → StrOK (s ++ [x]) := by
  fun_induction StrOK s with
  | case1 => exact fun _ hx _ => hx  -- empty string
  | case2 c => exact fun hs hx hl => ⟨hs, hl c rfl, hx⟩  -- one character
  | case3 c d r ih => exact fun hs hx hl => ⟨hs.1, hs.2.1, ih hs.2.2 hx (fun h hh => hl h (by simpa using hh))⟩  -- two or more

/-- invariant of the string loop.  The second clause is what keeps an adjacent surrogate pair out of the result: when `acc` ends in a high
surrogate the text does not go on with an escaped low one (the parser would have joined the two), and by `AllOK` not with a raw one either -/
def Good (acc : PStr) (rest : Txt) : Prop := StrOK acc ∧ ∀ h, acc.getLast? = some h → isHigh h → ¬ StartsLowEsc rest

theorem allOK_hex4_rest {t : Txt} {u : Nat} {r : Txt} (h : parseHex4 t = some (u, r)) (ht : AllOK t) : AllOK r := by
  obtain ⟨_, a, b, c, d, rfl⟩ := parseHex4_spec h
  exact ht.tail.tail.tail.tail

theorem good_push (acc : PStr) (x : Nat) (rest : Txt) (hs : StrOK acc) (hx : x < 0x110000)
    (hl : ∀ h, acc.getLast? = some h → ¬ (isHigh h ∧ isLow x)) (hh : isHigh x → ¬ StartsLowEsc rest) : Good (acc ++ [x]) rest :=
  ⟨strOK_append_one acc x hs hx hl, fun h e hi => by simp at e; exact hh (e ▸ hi)⟩

theorem good_push_ok {acc : PStr} (hs : StrOK acc) {x : Nat} (hx : OKc x) (rest : Txt) : Good (acc ++ [x]) rest := by
  have : x < 0x110000 ∧ ¬ isHigh x ∧ ¬ isLow x := by
    unfold OKc at hx
    unfold isHigh isLow
    omega
  exact good_push acc x rest hs this.1 (fun _ _ hc => this.2.2 hc.2) (fun hi => absurd hi this.2.1)

theorem parseStrBody_sound : ∀ (f : Nat) (s : Txt) (acc out : PStr) (rest : Txt), AllOK s → Good acc s →
    parseStrBody f s acc = some (out, rest) → StrOK out ∧ AllOK rest := by
  intro f
  induction f with
  | zero => exact fun _ _ _ _ _ _ h => nomatch h
  | succ f ih =>
    intro s acc out rest hs hg h
    obtain _ | ⟨c, cs⟩ := s
    · cases h
    have push : ∀ x r, AllOK r → Good (acc ++ [x]) r → parseStrBody f r (acc ++ [x]) = some (out, rest) → StrOK out ∧ AllOK rest :=
      fun x r => ih r _ out rest
    by_cases hq : c = 34
    · subst hq
      cases h
      exact ⟨hg.1, hs.tail⟩
    by_cases hb : c = 92
    · subst hb
      obtain _ | ⟨e, r⟩ := cs
      · cases h
      have hr : AllOK r := hs.tail.tail
      cases he : simpleEsc e with
      | some x =>
        rw [parseStrBody_simple he] at h
        exact push x r hr (good_push_ok hg.1 (.inl (by have := simpleEsc_spec he; omega)) r) h
      | none =>
        by_cases hu : e = 117
        · subst hu
          cases hp : parseHex4 r with
          | none =>
            rw [parseStrBody_u_none hp] at h
            cases h
          | some p =>
            obtain ⟨u, r1⟩ := p
            have hu := (parseHex4_spec hp).1
            have hr1 := allOK_hex4_rest hp hr
            by_cases hpair : isHigh u ∧ StartsLowEsc r1
            · obtain ⟨hhi, r2, u2, r3, rfl, hp2, hlo⟩ := hpair
              rw [parseStrBody_u_pair hp hp2 hhi hlo rfl] at h
              have ⟨lo, hi⟩ := astral_of_surrogates hhi hlo
              exact push _ r3 (allOK_hex4_rest hp2 hr1.tail.tail) (good_push_ok hg.1 (.inr ⟨Nat.le_trans (by decide) lo, hi⟩) r3) h
            · rw [parseStrBody_u_single hp hpair] at h
              exact push u r1 hr1 (good_push acc u r1 hg.1 (by omega)
                (fun hlast el hc => hg.2 hlast el hc.1 ⟨r, u, r1, rfl, hp, hc.2⟩) (fun hi hs => hpair ⟨hi, hs⟩)) h
        · rw [parseStrBody_badEsc he hu] at h
          cases h
    by_cases hlt : c < 32
    · simp [parseStrBody, cQuote, cBsl, hq, hb, hlt] at h
    rw [parseStrBody_plain hq hb (Nat.le_of_not_lt hlt)] at h
    exact push c cs hs.tail (good_push_ok hg.1 hs.head cs) h

theorem parseStr_sound {s : Txt} {out : PStr} {rest : Txt} (hs : AllOK s) (h : parseStr s = some (out, rest)) : StrOK out ∧ AllOK rest :=
  parseStrBody_sound _ s [] out rest hs ⟨trivial, fun _ e => by simp at e⟩ h

theorem allOK_skipWs {s : Txt} (h : AllOK s) : AllOK (skipWs s) := by
  fun_induction skipWs s with
  | case2 c cs _ ih => exact ih h.tail  -- white space is passed
  | _ => exact h

theorem AllOK.skip {s r : Txt} {d : Nat} (h : AllOK s) (e : skipWs s = d :: r) : AllOK r := (e ▸ allOK_skipWs h).tail

theorem allOK_stripPre {p s r : Txt} : stripPre p s = some r → AllOK s → AllOK r := by
  fun_induction stripPre p s with
  | case1 s => exact fun h hs => Option.some.inj h ▸ hs  -- whole prefix stripped
  | case3 ps c cs ih => exact fun h hs => ih h hs.tail  -- first characters agree
  | _ => nofun

theorem spanNum_spec (s : Txt) : (∀ c ∈ (spanNum s).1, isNumChar c = true) ∧ (AllOK s → AllOK (spanNum s).2) := by
  fun_induction spanNum s with
  | case2 c cs hc a b e ih =>  -- number character
    rw [e] at ih
    exact ⟨List.forall_mem_cons.mpr ⟨hc, ih.1⟩, fun h => ih.2 h.tail⟩
  | _ => exact ⟨fun _ => nofun, id⟩

theorem parseNumTok_wf {t : Txt} {v : J} (ht : ∀ c ∈ t, isNumChar c = true) (h : parseNumTok t = some v) : v.WF := by
  have h' := h
  revert h'
  fun_cases parseNumTok t with
  | case1 r hv hl =>  -- `-` and an integer within the limit
    rintro ⟨⟩
    rw [J.WF, Int.natAbs_neg, Int.natAbs_natCast]
    exact digitsVal_lt_limit r (validNatTok_digits hv) hl
  | case5 _ _ hv hl =>  -- an integer within the limit
    rintro ⟨⟩
    exact digitsVal_lt_limit t (validNatTok_digits hv) hl
  | case2 | case6 => nofun  -- an integer beyond the limit
  | case3 _ _ hf | case7 _ _ _ hf =>  -- a float literal: it is its own token
    rw [if_pos hf]
    rintro ⟨⟩
    exact .inr (.inr (.inr ⟨ht, h⟩))
  | case4 _ _ hf | case8 _ _ _ hf =>  -- neither
    rw [if_neg hf]
    nofun

theorem parse_sound_fuel : ∀ (f : Nat),
    (∀ s v r, AllOK s → parseValue f s = some (v, r) → v.WF ∧ AllOK r) ∧
    (∀ s acc v r, AllOK s → WFs acc → parseElems f s acc = some (v, r) → v.WF ∧ AllOK r) ∧
    (∀ s acc v r, AllOK s → WFm acc → (acc.map (·.1)).Nodup → parseMembers f s acc = some (v, r) → v.WF ∧ AllOK r) := by
  intro f
  -- the hypothesis is only ever used at the predecessor; the strong form leaves `f` a variable, which `fun_cases` then puts `f + 1` for
  induction f using Nat.strongRecOn with | _ f ih => ?_
  refine ⟨fun s v r hs => ?_, fun s acc v r hs hacc => ?_, fun s acc v r hs hacc hnd => ?_⟩
  · -- a literal: the rest of its spelling is stripped
    have lit : ∀ {p t : Txt} {w : J}, w.WF → AllOK t → (stripPre p t).map (fun r' => (w, r')) = some (v, r) → v.WF ∧ AllOK r := by
      intro p t w hw ht hm
      obtain ⟨r', hsp, e⟩ := Option.map_eq_some_iff.mp hm
      cases e
      exact ⟨hw, allOK_stripPre hsp ht⟩
    fun_cases parseValue f s with
    | case3 f r =>                        -- a string
      intro h
      obtain ⟨⟨st, r'⟩, hp, e⟩ := Option.map_eq_some_iff.mp h
      cases e
      exact parseStr_sound hs.tail hp
    | case5 f r cs _ hk =>                -- `[]`
      rintro ⟨⟩
      exact ⟨trivial, hs.tail.skip hk⟩
    | case6 f r c cs hk => exact (ih f (Nat.lt_succ_self f)).2.1 _ [] _ _ (hk ▸ allOK_skipWs hs.tail) trivial        -- `[` and elements
    | case8 f r cs _ _ hk =>              -- `{}`
      rintro ⟨⟩
      exact ⟨⟨trivial, List.nodup_nil⟩, hs.tail.skip hk⟩
    | case9 f r c cs hk => exact (ih f (Nat.lt_succ_self f)).2.2 _ [] _ _ (hk ▸ allOK_skipWs hs.tail) trivial List.nodup_nil  -- `{` and members
    | case10 | case11 | case12 => exact lit trivial hs.tail                                                          -- null, true, false
    | case13 => exact lit (.inl rfl) hs.tail                                                                         -- NaN
    | case14 => exact lit (.inr (.inl rfl)) hs.tail                                                                  -- Infinity
    | case15 f c r =>                     -- -Infinity
      refine lit (.inr (.inr (.inl rfl))) ?_
      cases r with
      | nil => exact hs.tail
      | cons _ _ => exact hs.tail.tail
    | case16 f c r =>                     -- a number
      intro h
      obtain ⟨w, hn, e⟩ := Option.map_eq_some_iff.mp h
      cases e
      exact ⟨parseNumTok_wf (spanNum_spec (c :: r)).1 hn, (spanNum_spec (c :: r)).2 hs⟩
    | _ => nofun
  · fun_cases parseElems f s acc with
    | case4 f s acc x r1 hv cs hk =>      -- an element, a comma, and more
      obtain ⟨ihV, ihE, -⟩ := ih f (Nat.lt_succ_self f)
      obtain ⟨hx, hr1⟩ := ihV _ _ _ hs hv
      exact ihE _ _ _ _ (allOK_skipWs (hr1.skip hk)) (wfs_append_one _ _ hacc hx)
    | case5 f s acc x r1 hv cs hk =>      -- the last element and `]`
      obtain ⟨hx, hr1⟩ := (ih f (Nat.lt_succ_self f)).1 _ _ _ hs hv
      rintro ⟨⟩
      exact ⟨wfs_append_one _ _ hacc hx, hr1.skip hk⟩
    | _ => nofun
  · fun_cases parseMembers f s acc with
    | case7 f r acc k r1 hp r2 x r3 hv r4 h1 h3 =>      -- a member `"k": x`, a comma, and more
      obtain ⟨ihV, -, ihM⟩ := ih f (Nat.lt_succ_self f)
      obtain ⟨hk, hr1⟩ := parseStr_sound hs.tail hp
      obtain ⟨hx, hr3⟩ := ihV _ _ _ (allOK_skipWs (hr1.skip h1)) hv
      exact ihM _ _ _ _ (allOK_skipWs (hr3.skip h3)) (wfm_dictSet hk hx hacc) (dictSet_nodup hnd)
    | case8 f r acc k r1 hp r2 x r3 hv r4 h1 h3 =>      -- the last member and `}`
      obtain ⟨hk, hr1⟩ := parseStr_sound hs.tail hp
      obtain ⟨hx, hr3⟩ := (ih f (Nat.lt_succ_self f)).1 _ _ _ (allOK_skipWs (hr1.skip h1)) hv
      rintro ⟨⟩
      exact ⟨⟨wfm_dictSet hk hx hacc, dictSet_nodup hnd⟩, hr3.skip h3⟩
    | _ => nofun

theorem parse_wf {s : Txt} {v : J} (hs : AllOK s) (h : parse s = some v) : v.WF := by
  revert h
  fun_cases parse s with
  | case1 x r hv he =>  -- a value, then only white space
    rintro ⟨⟩
    exact ((parse_sound_fuel _).1 _ _ _ (allOK_skipWs hs) hv).1
  | _ => nofun

/-- no UTF-8 lead byte `ED` is followed by `A0..BF`: the byte string does not encode a surrogate (what strict UTF-8 forbids) -/
def NoSurLead : List Nat → Prop
  | [] => True
  | [_] => True
  | x :: y :: r => (x = 0xed → y < 0xa0) ∧ NoSurLead (y :: r)

theorem NoSurLead.tail {x : Nat} {r : List Nat} : NoSurLead (x :: r) → NoSurLead r := by
  cases r with
  | nil => exact fun _ => trivial
  | cons _ _ => exact fun h => h.2

theorem noSurLead_ascii (b : List Nat) (h : ∀ x ∈ b, x < 128) : NoSurLead b := by
  fun_induction NoSurLead b with
  | case3 x y r ih => exact ⟨fun e => by have := h x (.head _); omega, ih fun z hz => h z (.tail _ hz)⟩  -- two or more bytes
  | _ => trivial

theorem utf8Decode_allOK : ∀ (f : Nat) (b : List Nat) (t : Txt), NoSurLead b → utf8Decode f b = some t → AllOK t := by
  intro f b
  -- every branch that answers decodes one code point `x` and goes on with the bytes `r'` after it
  have cons : ∀ {f : Nat} {r' : List Nat} {x : Nat}, (∀ t, NoSurLead r' → utf8Decode f r' = some t → AllOK t) → OKc x → NoSurLead r' →
      ∀ t, (utf8Decode f r').map (x :: ·) = some t → AllOK t := by
    intro f r' x ih hx hn t h
    obtain ⟨t', hd, rfl⟩ := Option.map_eq_some_iff.mp h
    exact List.forall_mem_cons.mpr ⟨hx, ih t' hn hd⟩
  fun_induction utf8Decode f b with
  | case2 => exact fun t _ h => Option.some.inj h ▸ fun _ => nofun   -- no bytes left
  | case3 f b r h1 ih => exact fun t hn => cons ih (.inl (by omega)) hn.tail t   -- one byte
  | case4 f b h1 h2 b1 r' h ih => exact fun t hn => cons ih (.inl (by omega)) hn.tail.tail t   -- two bytes
  | case7 f b h1 h2 h3 b1 b2 r' h ih =>   -- three bytes
    -- `hn.1 : b = 0xed → b1 < 0xa0` rules out the only three-byte sequences that would decode to surrogates
    exact fun t hn => cons ih (by have := hn.1; unfold OKc; omega) hn.tail.tail.tail t
  | case10 f b h1 h2 h3 h4 b1 b2 b3 r' h ih => exact fun t hn => cons ih (.inr (by omega)) hn.tail.tail.tail.tail t   -- four bytes
  | _ => exact fun _ _ => nofun   -- no fuel, or a malformed sequence

def stripBom (b : List Nat) : List Nat := match b with | 0xef :: 0xbb :: 0xbf :: r => r | r => r

theorem loadBytes_eq (b : List Nat) :
    loadBytes b = match utf8Decode ((stripBom b).length + 1) (stripBom b) with | none => none | some t => parse t := rfl

theorem noSurLead_stripBom {b : List Nat} (h : NoSurLead b) : NoSurLead (stripBom b) := by
  fun_cases stripBom b with
  | case1 => exact h.tail.tail.tail  -- a byte order mark
  | case2 => exact h

theorem utf8Decode_ascii (l : List Nat) (f : Nat) (hf : l.length < f) (h : ∀ b ∈ l, b < 128) : utf8Decode f l = some l := by
  fun_induction utf8Decode f l with
  | case1 => cases hf  -- no fuel
  | case2 => rfl  -- no bytes
  | case3 f b r hb ih =>  -- a byte below 0x80 is one code point
    rw [ih (Nat.lt_of_succ_lt_succ hf) fun x hx => h x (.tail _ hx)]
    rfl
  | _ => exact absurd (h _ (.head _)) ‹_›  -- the other branches come after the test `¬ b < 0x80`

theorem loadBytes_ascii {b : List Nat} (h : ∀ x ∈ b, x < 128) : loadBytes b = parse b := by
  have : stripBom b = b := by
    fun_cases stripBom b with
    | case1 => exact absurd (h 0xef List.mem_cons_self) (by decide)
    | case2 => rfl
  rw [loadBytes_eq, this, utf8Decode_ascii b _ (Nat.lt_succ_self _) h]

theorem load_wf {b : List Nat} {v : J} (hb : NoSurLead b) (h : loadBytes b = some v) : v.WF := by
  rw [loadBytes_eq] at h
  split at h
  · cases h
  · next t hd => exact parse_wf (utf8Decode_allOK _ _ _ (noSurLead_stripBom hb) hd) h

theorem load_wf_ascii {b : List Nat} {v : J} (hb : ∀ x ∈ b, x < 128) (h : loadBytes b = some v) : v.WF :=
  load_wf (noSurLead_ascii _ hb) h

end CCT
