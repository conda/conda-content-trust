import CCT.Model.Heap
import CCT.Lemmas.JsonWF
/-! Deep copies are fresh and self-contained; old objects are untouched by allocation; reads of closed old trees ignore fresh writes. -/
namespace CCT

theorem push_spec (h : Heap) (o : Obj) :
    (h.push o).2 = h.next ∧ (h.push o).1.next = h.next + 1 ∧ (h.push o).1.get h.next = some o ∧
    ∀ j, j ≠ h.next → (h.push o).1.get j = h.get j :=
  ⟨rfl, rfl, if_pos rfl, fun _ hj => if_neg hj⟩

def AgreeOn (h'' h' : Heap) (lo hi : Nat) : Prop := ∀ j, lo ≤ j → j < hi → h''.get j = h'.get j

/-- `h'` has every object of `h`, unchanged: what allocation does to a heap -/
def Heap.Extends (h h' : Heap) : Prop := h.next ≤ h'.next ∧ ∀ j, j < h.next → h'.get j = h.get j

theorem Heap.Extends.refl (h : Heap) : h.Extends h := ⟨Nat.le_refl _, fun _ _ => rfl⟩

theorem Heap.Extends.trans {h h1 h2 : Heap} (e1 : h.Extends h1) (e2 : h1.Extends h2) : h.Extends h2 :=
  ⟨Nat.le_trans e1.1 e2.1, fun j hj => by rw [e2.2 j (Nat.lt_of_lt_of_le hj e1.1), e1.2 j hj]⟩

theorem Heap.extends_push (h : Heap) (o : Obj) : h.Extends (h.push o).1 :=
  ⟨Nat.le_succ _, fun j hj => (push_spec h o).2.2.2 j (Nat.ne_of_lt hj)⟩

theorem AgreeOn.split {h'' h h1 h2 : Heap} (hag : AgreeOn h'' h2 h.next h2.next) (e1 : h.Extends h1) (e2 : h1.Extends h2) :
    AgreeOn h'' h1 h.next h1.next ∧ AgreeOn h'' h2 h1.next h2.next :=
  ⟨fun j l1 l2 => by rw [hag j l1 (Nat.lt_of_lt_of_le l2 e2.1), e2.2 j l2], fun j l1 l2 => hag j (Nat.le_trans e1.1 l1) l2⟩

/-- the common part of all cases of `alloc`: a node `o` pushed on top of its freshly allocated children (none, for a leaf) -/
theorem push_node_spec {h h' : Heap} {o : Obj} {v : J} {n : Nat} (e : h.Extends h')
    (hrd : ∀ (h'' : Heap) (f : Nat), h''.get h'.next = some o → AgreeOn h'' h' h.next h'.next → n ≤ f → deref h'' (f + 1) h'.next = some v) :
    h.next ≤ (h'.push o).2 ∧ (h'.push o).2 < (h'.push o).1.next ∧ h.Extends (h'.push o).1 ∧
    ∀ (h'' : Heap) (f : Nat), AgreeOn h'' (h'.push o).1 h.next (h'.push o).1.next → 1 + n ≤ f → deref h'' f (h'.push o).2 = some v := by
  have e' := h'.extends_push o
  refine ⟨e.1, Nat.lt_succ_self _, e.trans e', fun h'' f hag hf => ?_⟩
  cases f with
  | zero => exact absurd hf (by simp)
  | succ f =>
    exact hrd h'' f ((hag _ e.1 (Nat.lt_succ_self _)).trans (push_spec h' o).2.2.1) (hag.split e e').1 (Nat.le_of_succ_le_succ (by rwa [Nat.add_comm] at hf))

mutual
/-- The read-back is claimed not for the resulting heap alone but for every heap `h''` that agrees with it on the fresh addresses
`[h.next, next)` (`AgreeOn`): the copy points nowhere else.  This is what the induction needs (the cells of one child are still there after the
next child and the node have been allocated), and it is what C12 uses: the copy reads `v` whatever is later written to older cells. -/
theorem alloc_spec (h : Heap) (v : J) :
    h.next ≤ (alloc h v).2 ∧ (alloc h v).2 < (alloc h v).1.next ∧ h.Extends (alloc h v).1 ∧
    ∀ (h'' : Heap) (f : Nat), AgreeOn h'' (alloc h v).1 h.next (alloc h v).1.next → v.size ≤ f → deref h'' f (alloc h v).2 = some v := by
  match v with
  | .null | .bool _ | .int _ | .flt _ | .str _ =>
    all_goals exact push_node_spec (n := 0) (.refl h) fun h'' f hroot _ _ => by simp only [deref, hroot]
  | .arr xs =>
    obtain ⟨ih1, ih2, ih3⟩ := allocList_spec h xs
    exact push_node_spec ⟨ih1, ih2⟩ fun h'' f hroot hag hf => by simp only [deref, hroot, ih3 h'' f hag hf, Option.map]
  | .obj kvs =>
    obtain ⟨ih1, ih2, ih3⟩ := allocMembers_spec h kvs
    exact push_node_spec ⟨ih1, ih2⟩ fun h'' f hroot hag hf => by simp only [deref, hroot, ih3 h'' f hag hf, Option.map]
theorem allocList_spec (h : Heap) (xs : List J) :
    h.next ≤ (allocList h xs).1.next ∧
    (∀ j, j < h.next → (allocList h xs).1.get j = h.get j) ∧
    ∀ (h'' : Heap) (f : Nat), AgreeOn h'' (allocList h xs).1 h.next (allocList h xs).1.next → sizes xs ≤ f →
      derefList h'' f (allocList h xs).2 = some xs := by
  match xs with
  | [] => exact ⟨Nat.le_refl _, fun _ _ => rfl, fun _ _ _ _ => by simp [allocList, derefList]⟩
  | x :: r =>
    obtain ⟨_, _, a, ha⟩ := alloc_spec h x
    obtain ⟨b1, b2, hb⟩ := allocList_spec (alloc h x).1 r
    have e := a.trans ⟨b1, b2⟩
    refine ⟨e.1, e.2, fun h'' f hag hf => ?_⟩
    obtain ⟨g1, g2⟩ := AgreeOn.split hag a ⟨b1, b2⟩
    simp only [sizes] at hf
    simp only [allocList, derefList, ha h'' f g1 (Nat.le_of_succ_le (Nat.le_of_add_right_le hf)), hb h'' f g2 (Nat.le_trans (Nat.le_add_left ..) hf)]
theorem allocMembers_spec (h : Heap) (kvs : List (PStr × J)) :
    h.next ≤ (allocMembers h kvs).1.next ∧
    (∀ j, j < h.next → (allocMembers h kvs).1.get j = h.get j) ∧
    ∀ (h'' : Heap) (f : Nat), AgreeOn h'' (allocMembers h kvs).1 h.next (allocMembers h kvs).1.next → sizem kvs ≤ f →
      derefMembers h'' f (allocMembers h kvs).2 = some kvs := by
  match kvs with
  | [] => exact ⟨Nat.le_refl _, fun _ _ => rfl, fun _ _ _ _ => by simp [allocMembers, derefMembers]⟩
  | (k, x) :: r =>
    obtain ⟨_, _, a, ha⟩ := alloc_spec h x
    obtain ⟨b1, b2, hb⟩ := allocMembers_spec (alloc h x).1 r
    have e := a.trans ⟨b1, b2⟩
    refine ⟨e.1, e.2, fun h'' f hag hf => ?_⟩
    obtain ⟨g1, g2⟩ := AgreeOn.split hag a ⟨b1, b2⟩
    simp only [sizem] at hf
    simp only [allocMembers, derefMembers, ha h'' f g1 (Nat.le_of_succ_le (Nat.le_of_add_right_le hf)), hb h'' f g2 (Nat.le_trans (Nat.le_add_left ..) hf)]
end

/-- a sequence of in-place modifications of containers -/
def applyWrites (h : Heap) : List (Nat × Obj) → Heap
  | [] => h
  | (i, o) :: r => applyWrites (h.write i o) r

theorem write_get_other (h : Heap) (i j : Nat) (o : Obj) (hne : j ≠ i) : (h.write i o).get j = h.get j := by
  fun_cases Heap.write h i o with
  | case1 => exact if_neg hne  -- `i` allocated: its cell replaced
  | case2 => rfl               -- not allocated: no write

theorem write_next (h : Heap) (i : Nat) (o : Obj) : (h.write i o).next = h.next := by
  fun_cases Heap.write h i o <;> rfl

theorem applyWrites_get (ws : List (Nat × Obj)) (h : Heap) (j : Nat) (hne : ∀ w ∈ ws, w.1 ≠ j) : (applyWrites h ws).get j = h.get j := by
  fun_induction applyWrites h ws with
  | case1 => rfl  -- no writes
  | case2 h i o r ih =>  -- the write to `i`, then the rest
    exact (ih fun w hw => hne w (.tail _ hw)).trans (write_get_other h i j o (Ne.symm (hne _ (.head _))))

theorem applyWrites_get_above {lo j : Nat} (ws : List (Nat × Obj)) (h : Heap) (hws : ∀ w ∈ ws, w.1 < lo) (hj : lo ≤ j) :
    (applyWrites h ws).get j = h.get j :=
  applyWrites_get ws h j fun w hw e => Nat.lt_irrefl j (Nat.lt_of_lt_of_le (e ▸ hws w hw) hj)

theorem applyWrites_next (ws : List (Nat × Obj)) : ∀ (h : Heap), (applyWrites h ws).next = h.next := by
  intro h
  fun_induction applyWrites h ws with
  | case1 => rfl
  | case2 h i o r ih => exact ih.trans (write_next h i o)

def Closed (h : Heap) : Prop :=
  ∀ i o, h.get i = some o → i < h.next ∧
    (∀ ids, o = .list ids → ∀ c ∈ ids, c < h.next) ∧ (∀ kvs, o = .dict kvs → ∀ p ∈ kvs, p.2 < h.next)

theorem derefList_congr {h h'' : Heap} {f : Nat} (ids : List Nat) (hr : ∀ c ∈ ids, deref h'' f c = deref h f c) :
    derefList h'' f ids = derefList h f ids := by
  induction ids with
  | nil => simp only [derefList]
  | cons i r ih => rw [derefList, derefList, hr i (.head _), ih fun c hc => hr c (.tail _ hc)]

theorem derefMembers_congr {h h'' : Heap} {f : Nat} (kvs : List (PStr × Nat)) (hr : ∀ p ∈ kvs, deref h'' f p.2 = deref h f p.2) :
    derefMembers h'' f kvs = derefMembers h f kvs := by
  induction kvs with
  | nil => simp only [derefMembers]
  | cons p r ih => rw [derefMembers, derefMembers, hr p (.head _), ih fun c hc => hr c (.tail _ hc)]

theorem deref_agree_below (h h'' : Heap) (n : Nat) (hc : ∀ i o, h.get i = some o → i < n →
      (∀ ids, o = .list ids → ∀ c ∈ ids, c < n) ∧ (∀ kvs, o = .dict kvs → ∀ p ∈ kvs, p.2 < n))
    (hag : ∀ j, j < n → h''.get j = h.get j) : ∀ (f r : Nat), r < n → deref h'' f r = deref h f r := by
  intro f
  induction f with
  | zero => intro _ _; simp only [deref]
  | succ f ih =>
    intro r hr
    simp only [deref, hag r hr]
    cases ho : h.get r with
    | none => rfl
    | some o =>
      obtain ⟨cl, cd⟩ := hc r o ho hr
      cases o with
      | atom v => rfl
      | list ids => exact congrArg (Option.map J.arr) (derefList_congr ids fun c hcm => ih c (cl ids rfl c hcm))
      | dict kvs => exact congrArg (Option.map J.obj) (derefMembers_congr kvs fun p hp => ih p.2 (cd kvs rfl p hp))

theorem derefList_agree_below (h h'' : Heap) (n : Nat) (hc : ∀ i o, h.get i = some o → i < n →
      (∀ ids, o = .list ids → ∀ c ∈ ids, c < n) ∧ (∀ kvs, o = .dict kvs → ∀ p ∈ kvs, p.2 < n))
    (hag : ∀ j, j < n → h''.get j = h.get j) (f : Nat) (ids : List Nat) (hr : ∀ c ∈ ids, c < n) :
    derefList h'' f ids = derefList h f ids :=
  derefList_congr ids fun c hcm => deref_agree_below h h'' n hc hag f c (hr c hcm)

theorem derefMembers_agree_below (h h'' : Heap) (n : Nat) (hc : ∀ i o, h.get i = some o → i < n →
      (∀ ids, o = .list ids → ∀ c ∈ ids, c < n) ∧ (∀ kvs, o = .dict kvs → ∀ p ∈ kvs, p.2 < n))
    (hag : ∀ j, j < n → h''.get j = h.get j) (f : Nat) (kvs : List (PStr × Nat)) (hr : ∀ p ∈ kvs, p.2 < n) :
    derefMembers h'' f kvs = derefMembers h f kvs :=
  derefMembers_congr kvs fun p hp => deref_agree_below h h'' n hc hag f p.2 (hr p hp)

end CCT
