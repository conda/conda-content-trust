import CCT.Lemmas.Dict
import CCT.Model.SignThreads
/-! invariant of in-place signer threads under every schedule -/
namespace CCT

/-- "every entry of the shared map is an original one or the entry of a signer that has finished" -/
def SOthers (signers : Nat → Signer) (p0 : J) (sigs0 sigs : List (PStr × J)) (ts : Nat → SLocal) : Prop :=
  ∀ x, dictGet x sigs = dictGet x sigs0 ∨ ∃ j, 3 ≤ (ts j).pc ∧ (signers j).key = x ∧ dictGet x sigs = some ((signers j).entryOf p0)

/-- what holds in every reachable state of a family of in-place signers started on payload `p0` and signature map `sigs0` -/
structure SInv (signers : Nat → Signer) (p0 : J) (sigs0 : List (PStr × J)) (sh : Envelope) (ts : Nat → SLocal) : Prop where
  signed : sh.signed = p0
  threads : ∀ i, (ts i).pc = 0 ∨ ((ts i).pc = 1 ∧ (ts i).payload = some p0) ∨ ((ts i).pc = 2 ∧ (ts i).entry = some ((signers i).entryOf p0))
      ∨ (3 ≤ (ts i).pc ∧ ∃ j, (signers j).key = (signers i).key ∧ dictGet (signers i).key sh.sigs = some ((signers j).entryOf p0))
  others : SOthers signers p0 sigs0 sh.sigs ts

theorem SInv.init (signers : Nat → Signer) (p0 : J) (sigs0 : List (PStr × J)) (ts : Nat → SLocal) (h0 : ∀ i, (ts i).pc = 0) :
    SInv signers p0 sigs0 { sigs := sigs0, signed := p0 } ts :=
  ⟨rfl, fun i => Or.inl (h0 i), fun _ => Or.inl rfl⟩

/-- the clause of `SInv.threads` for one thread -/
def SClause (signers : Nat → Signer) (p0 : J) (sigs : List (PStr × J)) (i : Nat) (st : SLocal) : Prop :=
  st.pc = 0 ∨ (st.pc = 1 ∧ st.payload = some p0) ∨ (st.pc = 2 ∧ st.entry = some ((signers i).entryOf p0))
    ∨ (3 ≤ st.pc ∧ ∃ j, (signers j).key = (signers i).key ∧ dictGet (signers i).key sigs = some ((signers j).entryOf p0))

/-- all that `SInv.step` needs of one step of thread `i`, so that the cases of the program counter are gone through once -/
theorem stepInPlace_clause (signers : Nat → Signer) (p0 : J) (i : Nat) {sh sh' : Envelope} {st st' : SLocal} (hs : sh.signed = p0)
    (hc : SClause signers p0 sh.sigs i st) (e : stepInPlace (signers i) sh st = (sh', st')) :
    SClause signers p0 sh'.sigs i st' ∧ (3 ≤ st.pc → 3 ≤ st'.pc) ∧ sh'.signed = p0 ∧
    ∀ x, dictGet x sh'.sigs = dictGet x sh.sigs ∨ (3 ≤ st'.pc ∧ (signers i).key = x ∧ dictGet x sh'.sigs = some ((signers i).entryOf p0)) := by
  rcases hc with hpc | ⟨hpc, hpl⟩ | ⟨hpc, hen⟩ | ⟨hpc, hfin⟩
  · -- pc 0: the payload is read, and it is `p0` by `hs`
    obtain ⟨rfl, rfl⟩ : sh = sh' ∧ _ = st' := by simpa [stepInPlace, hpc] using e
    simp [SClause, hs, hpc]
  · -- pc 1: the entry is computed from the payload read
    obtain ⟨rfl, rfl⟩ : sh = sh' ∧ _ = st' := by simpa [stepInPlace, hpc] using e
    simp [SClause, hs, hpl, hpc]
  · -- pc 2: the entry is stored under the signer's key
    obtain ⟨rfl, rfl⟩ : _ = sh' ∧ _ = st' := by simpa [stepInPlace, hpc, hen] using e
    refine ⟨Or.inr (Or.inr (Or.inr ⟨Nat.le_refl 3, i, rfl, dictGet_dictSet_same⟩)), fun _ => Nat.le_refl 3, hs, fun x => ?_⟩
    by_cases hx : x = (signers i).key
    · exact Or.inr ⟨Nat.le_refl 3, hx.symm, hx ▸ dictGet_dictSet_same⟩
    · exact Or.inl (dictGet_dictSet_other hx)
  · -- pc ≥ 3: finished, nothing moves
    obtain ⟨n, hn⟩ := Nat.exists_eq_add_of_le' hpc
    obtain ⟨rfl, rfl⟩ : sh = sh' ∧ st = st' := by simpa [stepInPlace, hn] using e
    exact ⟨Or.inr (Or.inr (Or.inr ⟨hpc, hfin⟩)), id, hs, fun _ => Or.inl rfl⟩

theorem SInv.step (signers : Nat → Signer) (p0 : J) (sigs0 : List (PStr × J)) (sh : Envelope) (ts : Nat → SLocal)
    (h : SInv signers p0 sigs0 sh ts) (i : Nat) :
    SInv signers p0 sigs0 (stepInPlace (signers i) sh (ts i)).1 (fun j => if j = i then (stepInPlace (signers i) sh (ts i)).2 else ts j) := by
  generalize he : stepInPlace (signers i) sh (ts i) = r
  obtain ⟨sh', st'⟩ := r
  obtain ⟨hown, hmono, hsigned, hget⟩ := stepInPlace_clause signers p0 i h.signed (h.threads i) he
  have hfin : ∀ j, 3 ≤ (ts j).pc → 3 ≤ (if j = i then st' else ts j).pc := fun j hj => by
    by_cases hji : j = i
    · subst hji; simpa using hmono hj
    · simpa [hji] using hj
  refine ⟨hsigned, fun m => ?_, fun x => ?_⟩
  · by_cases hm : m = i
    · subst hm; simpa [SClause] using hown
    · simp only [if_neg hm]
      refine (h.threads m).imp_right (Or.imp_right (Or.imp_right fun ⟨h3, j, hj, hg⟩ => ⟨h3, ?_⟩))
      -- a finished thread `m` keeps its witness `j`, unless `i` has just written under the key they share: then `i` is the witness
      rcases hget (signers m).key with e | ⟨_, hk, e⟩
      · exact ⟨j, hj, e.trans hg⟩
      · exact ⟨i, hk, e⟩
  · rcases hget x with e | ⟨h3, hk, e⟩
    · rcases h.others x with ho | ⟨j, hj, hk, hg⟩
      · exact Or.inl (e.trans ho)
      · exact Or.inr ⟨j, hfin j hj, hk, e.trans hg⟩
    · exact Or.inr ⟨i, by simpa using h3, hk, e⟩

theorem SInv.run (signers : Nat → Signer) (p0 : J) (sigs0 : List (PStr × J)) (sched : List Nat) : ∀ (sh : Envelope) (ts : Nat → SLocal),
    SInv signers p0 sigs0 sh ts → SInv signers p0 sigs0 (runSigners stepInPlace signers sh ts sched).1 (runSigners stepInPlace signers sh ts sched).2 := by
  induction sched with
  | nil => exact fun _ _ h => h
  | cons i r ih =>
    intro sh ts h
    simp only [runSigners]
    exact ih _ _ (SInv.step signers p0 sigs0 sh ts h i)

theorem runSigners_untouched (step : Signer → Envelope → SLocal → Envelope × SLocal) (signers : Nat → Signer) (m : Nat) (sched : List Nat)
    (sh : Envelope) (ts : Nat → SLocal) (h : m ∉ sched) : (runSigners step signers sh ts sched).2 m = ts m := by
  fun_induction runSigners step signers sh ts sched with
  | case1 => rfl  -- empty schedule
  | case2 sh ts i r sh' st' _ ih =>  -- a step of thread `i ≠ m`
    exact (ih fun hm => h (.tail _ hm)).trans (if_neg fun (e : m = i) => h (e ▸ .head _))

end CCT
