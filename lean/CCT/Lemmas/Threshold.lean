import CCT.Props.C15
import CCT.Model.Auth
import CCT.Lemmas.Dict
/-! The counting loop of `verify_signable` against the declarative "threshold met". -/
namespace CCT
open Classical
open CCT.C15

/-- a field of a signature entry (`null` when absent or when the entry is not a dict) -/
def entryField (n : PStr) : J → J
  | .obj kvs => (dictGet n kvs).getD .null
  | _ => .null

/-- **an entry counts**: filed under a canonically spelled key that is authorized, of the shape the mode demands, and
cryptographically valid over the payload bytes (raw) or over the RFC 4880 digest of payload and hashed headers (OpenPGP) -/
def Counts (C : CryptoFns) (gpg : Bool) (auth : List PStr) (data : Bytes) (k : PStr) (sig : J) : Prop :=
  HexN 64 (.str k) ∧ k ∈ auth ∧
  (if gpg then
     GpgShape sig ∧
     C.verify (unhex k) (gpgDigest C data (unhex (strOf (entryField (ps! "other_headers") sig))))
       (unhex (strOf (entryField (ps! "signature") sig))) = true
   else
     (RawShape sig ∨ GpgShape sig) ∧
     C.verify (unhex k) data (unhex (strOf (entryField (ps! "signature") sig))) = true)

theorem counts_raw {C : CryptoFns} {auth : List PStr} {data : Bytes} {k : PStr} {sig : J} :
    Counts C false auth data k sig ↔ HexN 64 (.str k) ∧ k ∈ auth ∧ (RawShape sig ∨ GpgShape sig) ∧
      C.verify (unhex k) data (unhex (strOf (entryField (ps! "signature") sig))) = true := Iff.rfl

theorem counts_gpg {C : CryptoFns} {auth : List PStr} {data : Bytes} {k : PStr} {sig : J} :
    Counts C true auth data k sig ↔ HexN 64 (.str k) ∧ k ∈ auth ∧ GpgShape sig ∧
      C.verify (unhex k) (gpgDigest C data (unhex (strOf (entryField (ps! "other_headers") sig))))
        (unhex (strOf (entryField (ps! "signature") sig))) = true := Iff.rfl

theorem verifySignature_eq (C : CryptoFns) (sg : J) (pk d : Bytes) :
    verifySignature C (.j sg) (.pubkey pk) (.bytes d) =
      if HexN 128 sg then (if C.verify pk d (unhex (strOf sg)) = true then .ok () else .error .invalidSignature) else .error .arg := by
  simp only [verifySignature, isHexSignature_eq, ok_bind, ite_not_bool, decide_eq_true_eq, okU_eq]

theorem verifyGpgSignatureJ_eq (C : CryptoFns) (sig key : J) (data : Bytes) :
    verifyGpgSignatureJ C sig key data =
      if GpgShape sig ∧ HexN 64 key then
        (if C.verify (unhex (strOf key)) (gpgDigest C data (unhex (strOf (entryField (ps! "other_headers") sig))))
            (unhex (strOf (entryField (ps! "signature") sig))) = true then .ok () else .error .invalidSignature)
      else .error .arg := by
  simp only [verifyGpgSignatureJ, checkGpgSignature_eq, checkHexKey_eq, ite_bind, ite_ite_and]
  by_cases h : GpgShape sig ∧ HexN 64 key
  · obtain ⟨⟨kvs, rfl, _, ⟨oh, hoh, _⟩, ⟨sg, hsg, _⟩, _⟩, _⟩ := id h
    simp only [h, and_self, if_true, dictIndex_some hoh, dictIndex_some hsg, ok_bind, okU_eq, entryField, hoh, hsg, Option.getD_some]
  · simp only [h, if_false]

theorem verifyEntry_eq (C : CryptoFns) (gpg : Bool) (auth : List PStr) (data : Bytes) (good : List (PStr × J)) (k : PStr) (sig : J) :
    verifyEntry C gpg auth data good k sig = .ok (if Counts C gpg auth data k sig then dictSet good k sig else good) := by
  unfold verifyEntry
  simp only [isHexKey_eq, isGpgSignature_eq, isSignature_eq, ok_bind, pure_eq_ok, ite_not_bool, decide_eq_true_eq, List.contains_iff_mem]
  -- the tests of the loop body are the clauses of `Counts` in another order; the last one is the primitive's answer `v`
  by_cases hk : HexN 64 (.str k)
  · by_cases ha : k ∈ auth
    · cases gpg with
      | false =>
        by_cases hs : RawShape sig ∨ GpgShape sig
        · obtain ⟨kvs, sg, rfl, hsg, h128⟩ := shape_signature hs
          simp only [counts_raw, hk, ha, hs, true_and, entryField, hsg, Option.getD_some, dictIndex_some hsg, verifySignature_eq, h128,
            ok_bind, Bool.false_eq_true, Bool.false_and, if_true, if_false]
          generalize C.verify _ _ _ = v; cases v <;> rfl
        · simp [Counts, hk, ha, hs]
      | true =>
        by_cases hg : GpgShape sig
        · -- (`rw`, unlike `simp`, also rewrites the `Decidable` instance inside the closed form, so that `generalize` finds every `v`)
          have e := verifyGpgSignatureJ_eq C sig (.str k) data
          rw [strOf_str] at e
          simp only [counts_gpg, hk, ha, hg, e, Bool.true_and, decide_true, Bool.not_true, Bool.false_eq_true, and_self, true_and, if_true,
            if_false]
          generalize C.verify _ _ _ = v; cases v <;> rfl
        · simp [Counts, hk, ha, hg]
    · simp [Counts, hk, ha]
  · simp [Counts, hk]

theorem verifyLoop_foldl (C : CryptoFns) (gpg : Bool) (auth : List PStr) (data : Bytes) (entries good : List (PStr × J)) :
    verifyLoop C gpg auth data good entries =
      .ok ((entries.filter fun p => decide (Counts C gpg auth data p.1 p.2)).foldl (fun d p => dictSet d p.1 p.2) good) := by
  fun_induction verifyLoop C gpg auth data good entries with
  | case1 good => rfl  -- no entries
  | case2 good k s r ih =>  -- the entry `k: s`, then the rest
    rw [verifyEntry_eq, ok_bind, ih, List.filter_cons]
    by_cases hc : Counts C gpg auth data k s <;> simp [hc]

theorem le_length_iff_exists_nodup {α : Type} {L : List α} {P : α → Prop} (hL : L.Nodup) (h : ∀ k, k ∈ L ↔ P k) (n : Nat) :
    n ≤ L.length ↔ ∃ S : List α, S.Nodup ∧ n ≤ S.length ∧ ∀ k ∈ S, P k :=
  ⟨fun hn => ⟨L, hL, hn, fun k hk => (h k).mp hk⟩,
   fun ⟨_, hS, hn, hP⟩ => Nat.le_trans hn (hS.length_le_of_subset fun k hk => (h k).mpr (hP k hk))⟩

/-- **threshold met**: at least `thr` distinct keys each have an entry, filed under that key, that counts -/
def ThresholdMet (C : CryptoFns) (gpg : Bool) (auth : List PStr) (data : Bytes) (entries : List (PStr × J)) (thr : Nat) : Prop :=
  ∃ S : List PStr, S.Nodup ∧ thr ≤ S.length ∧ ∀ k ∈ S, ∃ sig, (k, sig) ∈ entries ∧ Counts C gpg auth data k sig

/-- `ThresholdMet` depends on its arguments only through the set of keys under which some entry counts (monotone) and the threshold (antitone) -/
theorem ThresholdMet.imp {C C' : CryptoFns} {gpg gpg' : Bool} {auth auth' : List PStr} {data data' : Bytes}
    {entries entries' : List (PStr × J)} {a b : Nat} (hab : a ≤ b)
    (hc : ∀ k sig, (k, sig) ∈ entries → Counts C gpg auth data k sig → ∃ sig', (k, sig') ∈ entries' ∧ Counts C' gpg' auth' data' k sig')
    (h : ThresholdMet C gpg auth data entries b) : ThresholdMet C' gpg' auth' data' entries' a := by
  obtain ⟨S, hS, hl, hall⟩ := h
  exact ⟨S, hS, Nat.le_trans hab hl, fun k hk => by obtain ⟨sig, hm, h⟩ := hall k hk; exact hc k sig hm h⟩

theorem verifyLoop_threshold (C : CryptoFns) (gpg : Bool) (auth : List PStr) (data : Bytes) (entries : List (PStr × J)) :
    ∃ good, verifyLoop C gpg auth data [] entries = .ok good ∧
      ∀ thr, thr ≤ good.length ↔ ThresholdMet C gpg auth data entries thr := by
  -- the accumulator's keys are distinct (`nodup_foldl_dictSet`), and they are the keys under which a counting entry was seen
  refine ⟨_, verifyLoop_foldl C gpg auth data entries [], fun thr => ?_⟩
  rw [← List.length_map (·.1)]
  refine le_length_iff_exists_nodup (nodup_foldl_dictSet _ _ _ [] List.nodup_nil) (fun k => ?_) thr
  simp [keys_foldl_dictSet]

theorem thresholdMet_one {C : CryptoFns} {gpg : Bool} {auth : List PStr} {data : Bytes} {entries : List (PStr × J)} {k : PStr} {sig : J}
    (hm : (k, sig) ∈ entries) (hc : Counts C gpg auth data k sig) : ThresholdMet C gpg auth data entries 1 :=
  ⟨[k], List.nodup_cons.mpr ⟨List.not_mem_nil, List.nodup_nil⟩, Nat.le_refl 1, fun _ hx => List.mem_singleton.mp hx ▸ ⟨sig, hm, hc⟩⟩

end CCT
