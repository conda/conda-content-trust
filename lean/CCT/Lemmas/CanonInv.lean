import CCT.Lemmas.Canon
import CCT.Lemmas.Rules
/-!
Member order is no part of a value.  `SameJ v w`: two well-formed presentations of one JSON value (equal once the members of every
object, at any depth, are sorted); everything the validators and verifiers observe of a value is the same on both up to `SameJ`.  A lemma
`…_same` has one of three shapes: an implication for a predicate (the relation is symmetric, so that is an iff: `SameJ.iff_of_imp`), an
equation for a function into leaves, `SameJ _ _` for an accessor.
-/
namespace CCT
open Classical
open CCT.C15

theorem jget_wf (n : PStr) (m : J) (h : m.WF) : (jget n m).WF := by
  cases m with
  | obj kvs =>
    cases hd : dictGet n kvs with
    | none => simp [jget, entryField, hd, J.WF]
    | some v => rw [jget_obj hd]; exact wf_member h hd
  | _ => simp [jget, entryField, J.WF]

theorem jget_canon (n : PStr) (m : J) (h : m.WF) : jget n (canon m) = canon (jget n m) := by
  cases m with
  | obj kvs =>
    simp only [canon, jget, entryField, dictGet_canonObj n kvs h.2]
    cases dictGet n kvs <;> simp [canon]
  | _ => simp [canon, jget, entryField]

def SameJ (v w : J) : Prop := v.WF ∧ w.WF ∧ canon v = canon w

namespace SameJ
variable {v w : J} {l l' : List (PStr × J)}

theorem refl (h : v.WF) : SameJ v v := ⟨h, h, rfl⟩

theorem symm (h : SameJ v w) : SameJ w v := ⟨h.2.1, h.1, h.2.2.symm⟩

theorem trans {u : J} (h : SameJ v w) (h' : SameJ w u) : SameJ v u := ⟨h.1, h'.2.1, h.2.2.trans h'.2.2⟩

theorem of_canon (h : v.WF) : SameJ v (canon v) := ⟨h, canon_wf v h, (canon_idem v h).symm⟩

theorem congr {α : Sort _} {f : J → α} (hf : ∀ v, f (canon v) = f v) (h : SameJ v w) : f v = f w := by
  rw [← hf v, ← hf w, h.2.2]

theorem iff {P : J → Prop} (hP : ∀ v, P (canon v) ↔ P v) (h : SameJ v w) : P v ↔ P w :=
  congr (fun v => propext (hP v)) h ▸ Iff.rfl

theorem iff_of_imp {P : J → Prop} (hP : ∀ {v w}, SameJ v w → P v → P w) (h : SameJ v w) : P v ↔ P w := ⟨hP h, hP h.symm⟩

theorem strOf (h : SameJ v w) : strOf v = strOf w := h.congr strOf_canon

theorem asInt (h : SameJ v w) : asInt v = asInt w := h.congr asInt_canon

theorem jget (h : SameJ v w) (n : PStr) : SameJ (jget n v) (jget n w) :=
  ⟨jget_wf n v h.1, jget_wf n w h.2.1, by rw [← jget_canon n v h.1, ← jget_canon n w h.2.1, h.2.2]⟩

theorem eq_str {s : PStr} (h : SameJ (.str s) w) : w = .str s := (canon_str_iff w s).mp h.2.2.symm

/-- a condition on the characters of a string: `HexN n`, `HexStr` and `WfUtc` are of this form -/
theorem str_imp {Q : PStr → Prop} (h : SameJ v w) : (∃ s, v = .str s ∧ Q s) → ∃ s, w = .str s ∧ Q s := by
  rintro ⟨s, rfl, q⟩
  exact ⟨s, h.eq_str, q⟩

theorem obj (h : SameJ (.obj l) w) : ∃ l', w = .obj l' := by
  cases w with
  | obj l' => exact ⟨l', rfl⟩
  | _ => have := h.2.2; simp [canon] at this

theorem sorted_eq (h : SameJ (.obj l) (.obj l')) : sortKV (canonMembers l) = sortKV (canonMembers l') := by
  simpa only [canon, J.obj.injEq] using h.2.2

theorem get (h : SameJ (.obj l) (.obj l')) {k : PStr} {x : J} (hx : dictGet k l = some x) : ∃ y, dictGet k l' = some y ∧ SameJ x y := by
  have e := dictGet_canonObj k l h.1.2
  rw [h.sorted_eq, dictGet_canonObj k l' h.2.1.2, hx] at e
  cases hy : dictGet k l' with
  | none => rw [hy] at e; cases e
  | some y => rw [hy] at e; exact ⟨y, rfl, wf_member h.1 hx, wf_member h.2.1 hy, (Option.some.inj e).symm⟩

theorem exists_get (h : SameJ (.obj l) (.obj l')) {P : J → Prop} (hP : ∀ {x y}, SameJ x y → P x → P y) {k : PStr} :
    (∃ x, dictGet k l = some x ∧ P x) → ∃ y, dictGet k l' = some y ∧ P y := by
  rintro ⟨x, hx, px⟩
  obtain ⟨y, hy, s⟩ := h.get hx
  exact ⟨y, hy, hP s px⟩

theorem forall_get (h : SameJ (.obj l) (.obj l')) {P : J → Prop} (hP : ∀ {x y}, SameJ x y → P x → P y) {k : PStr} :
    (∀ x, dictGet k l = some x → P x) → ∀ y, dictGet k l' = some y → P y := by
  intro hall y hy
  obtain ⟨x, hx, s⟩ := h.symm.get hy
  exact hP s.symm (hall x hx)

theorem get_str (h : SameJ (.obj l) (.obj l')) {k s : PStr} (hx : dictGet k l = some (.str s)) : dictGet k l' = some (.str s) := by
  obtain ⟨y, hy, sy⟩ := h.get hx
  rw [hy, sy.eq_str]

theorem get_none (h : SameJ (.obj l) (.obj l')) {k : PStr} (hx : dictGet k l = none) : dictGet k l' = none := by
  cases hy : dictGet k l' with
  | none => rfl
  | some y => obtain ⟨x, hx', _⟩ := h.symm.get hy; rw [hx] at hx'; cases hx'

theorem has (h : SameJ (.obj l) (.obj l')) {k : PStr} (hk : dictHas k l = true) : dictHas k l' = true := by
  obtain ⟨x, hx⟩ := dictHas_iff.mp hk
  obtain ⟨y, hy, _⟩ := h.get hx
  exact dictHas_some hy

theorem mem (h : SameJ (.obj l) (.obj l')) {k : PStr} {x : J} (hx : (k, x) ∈ l) : ∃ y, (k, y) ∈ l' ∧ SameJ x y := by
  obtain ⟨y, hy, s⟩ := h.get ((dictGet_eq_some_iff l h.1.2 k x).mpr hx)
  exact ⟨y, mem_of_dictGet hy, s⟩

theorem keysetEq (h : SameJ (.obj l) (.obj l')) (names : List PStr) : keysetEq l names = keysetEq l' names := by
  rw [← keysetEq_canonObj l, ← keysetEq_canonObj l', h.sorted_eq]

theorem length (h : SameJ (.obj l) (.obj l')) : l.length = l'.length := by
  rw [← canonObj_length l, ← canonObj_length l', h.sorted_eq]

end SameJ

theorem naturalInt_same {v w : J} (h : SameJ v w) : NaturalInt v → NaturalInt w := fun ⟨z, e, hz⟩ => ⟨z, h.asInt ▸ e, hz⟩

theorem keyListOK_same {v w : J} (h : SameJ v w) : KeyListOK v → KeyListOK w := by
  -- `canon` maps an array element by element and leaves strings as they are: `HexN 64` and `strOf` of the elements do not change
  refine (h.iff fun v => ?_).mp
  cases v with
  | arr ks =>
    simp only [KeyListOK, canon, canonList_eq_map, J.arr.injEq, exists_eq_left', List.mem_map, forall_exists_index, and_imp,
      forall_apply_eq_imp_iff₂, HexN, canon_str_iff, List.map_map, Function.comp_def, strOf_canon]
  | _ => simp only [KeyListOK, canon, reduceCtorEq, false_and, exists_const]

theorem keysOf_same {d d' : J} (h : SameJ d d') : keysOf d = keysOf d' := by
  rw [keysOf_eq_keyStrs, keysOf_eq_keyStrs]
  exact SameJ.congr (fun v => by cases v <;> simp [keyStrs, canon, canonList_eq_map, Function.comp_def, strOf_canon]) (h.jget _)

theorem thrOf_same {d d' : J} (h : SameJ d d') : thrOf d = thrOf d' := by rw [thrOf, thrOf, (h.jget _).asInt]

theorem rawShape_same {s s' : J} (h : SameJ s s') : RawShape s → RawShape s' := by
  rintro ⟨kvs, rfl, hl, hg⟩
  obtain ⟨kvs', rfl⟩ := h.obj
  exact ⟨kvs', rfl, h.length ▸ hl, h.exists_get SameJ.str_imp hg⟩

theorem gpgShape_same {s s' : J} (h : SameJ s s') : GpgShape s → GpgShape s' := by
  rintro ⟨kvs, rfl, hk, h1, h2, h3⟩
  obtain ⟨kvs', rfl⟩ := h.obj
  exact ⟨kvs', rfl, by simpa only [keysAre, h.keysetEq, h.length] using hk, h.exists_get SameJ.str_imp h1, h.exists_get SameJ.str_imp h2,
    h.forall_get SameJ.str_imp h3⟩

theorem anySigOK_same {s s' : J} (h : SameJ s s') : AnySigOK s → AnySigOK s' :=
  Or.imp (rawShape_same h) (gpgShape_same h)

theorem counts_same (C : CryptoFns) (gpg : Bool) (auth : List PStr) (data : Bytes) (k : PStr) {s s' : J} (h : SameJ s s') :
    Counts C gpg auth data k s ↔ Counts C gpg auth data k s' := by
  unfold Counts
  rw [h.iff_of_imp gpgShape_same, h.iff_of_imp rawShape_same, (h.jget _).strOf, (h.jget (ps! "signature")).strOf]

theorem thresholdMet_same (C : CryptoFns) (gpg : Bool) (auth : List PStr) (data : Bytes) {e e' : List (PStr × J)}
    (h : SameJ (.obj e) (.obj e')) (t : Nat) : ThresholdMet C gpg auth data e t ↔ ThresholdMet C gpg auth data e' t := by
  suffices ∀ {e e'}, SameJ (.obj e) (.obj e') → ThresholdMet C gpg auth data e t → ThresholdMet C gpg auth data e' t from ⟨this h, this h.symm⟩
  intro e e' h
  refine ThresholdMet.imp (Nat.le_refl t) fun k s hs hc => ?_
  obtain ⟨s', hs', ss⟩ := h.mem hs
  exact ⟨s', hs', (counts_same C gpg auth data k ss).mp hc⟩

theorem delegationOK_same {d d' : J} (h : SameJ d d') : DelegationOK d → DelegationOK d' := by
  rintro ⟨kvs, rfl, hk, h1, h2⟩
  obtain ⟨kvs', rfl⟩ := h.obj
  exact ⟨kvs', rfl, h.keysetEq _ ▸ hk, h.exists_get keyListOK_same h1, h.exists_get naturalInt_same h2⟩

theorem delegationsOK_same {d d' : J} (h : SameJ d d') : DelegationsOK d → DelegationsOK d' := by
  rintro ⟨kvs, rfl, hall⟩
  obtain ⟨kvs', rfl⟩ := h.obj
  refine ⟨kvs', rfl, fun p' hp' => ?_⟩
  obtain ⟨x, hx, s⟩ := h.symm.mem hp'
  exact delegationOK_same s.symm (hall _ hx)

theorem signedOK_same {s s' : J} (h : SameJ s s') : SignedOK s → SignedOK s' := by
  rintro ⟨kvs, rfl, ⟨ty, hty, hm⟩, ⟨sv, hsv⟩, hd, hex, hor, hroot, hts, hver⟩
  obtain ⟨kvs', rfl⟩ := h.obj
  exact ⟨kvs', rfl, ⟨ty, h.get_str hty, hm⟩, ⟨sv, h.get_str hsv⟩, h.exists_get delegationsOK_same hd, h.exists_get SameJ.str_imp hex,
    hor.imp h.has h.has, fun hr => h.has (hroot (h.symm.get_str hr)), h.forall_get SameJ.str_imp hts, h.forall_get naturalInt_same hver⟩

theorem isSignable_canon (env : J) (h : env.WF) : isSignableJ (canon env) = isSignableJ env := by
  cases env with
  | obj top =>
    simp only [canon, isSignableJ, keysetEq_canonObj, dictGet_canonObj _ top h.2]
    cases dictGet (ps! "signatures") top with
    | none => rfl
    | some s => cases s <;> rfl
  | _ => rfl

theorem isSignable_same {m m' : J} (h : SameJ m m') : isSignableJ m = isSignableJ m' := by
  rw [← isSignable_canon m h.1, ← isSignable_canon m' h.2.1, h.2.2]

theorem signedOf_same {m m' : J} (h : SameJ m m') : SameJ (signedOf m) (signedOf m') := h.jget _

theorem typeOf_same {m m' : J} (h : SameJ m m') : SameJ (typeOf m) (typeOf m') := (signedOf_same h).jget _

theorem versionOf_same {m m' : J} (h : SameJ m m') : versionOf m = versionOf m' := by
  rw [versionOf, versionOf, ((signedOf_same h).jget _).asInt]

/-- what `entriesOf` and `delegationsOf` make of the field they read -/
def membersOf : J → List (PStr × J)
  | .obj e => e
  | _ => []

theorem SameJ.members {v w : J} (h : SameJ v w) : SameJ (.obj (membersOf v)) (.obj (membersOf w)) := by
  have wf : ∀ {x : J}, x.WF → (J.obj (membersOf x)).WF := fun {x} hx => by
    cases x with
    | obj e => exact hx
    | _ => exact ⟨trivial, List.nodup_nil⟩
  have cn : ∀ x : J, canon (.obj (membersOf x)) = .obj (membersOf (canon x)) := fun x => by cases x <;> rfl
  exact ⟨wf h.1, wf h.2.1, by rw [cn, cn, h.2.2]⟩

theorem entriesOf_same {m m' : J} (h : SameJ m m') : SameJ (.obj (entriesOf m)) (.obj (entriesOf m')) :=
  (h.jget (ps! "signatures")).members

theorem delegationsOf_same {m m' : J} (h : SameJ m m') : SameJ (.obj (delegationsOf m)) (.obj (delegationsOf m')) :=
  ((signedOf_same h).jget (ps! "delegations")).members

-- `rootRule m` is the field `root` of the delegations
theorem rootRule_same {m m' : J} (h : SameJ m m') : SameJ (rootRule m) (rootRule m') := (delegationsOf_same h).jget (ps! "root")

theorem roleOf_same {t t' : J} (h : SameJ t t') (name : PStr) :
    (roleOf t name = none ∧ roleOf t' name = none) ∨ ∃ d d', roleOf t name = some d ∧ roleOf t' name = some d' ∧ SameJ d d' := by
  unfold roleOf
  cases hr : dictGet name (delegationsOf t) with
  | none => exact .inl ⟨rfl, (delegationsOf_same h).get_none hr⟩
  | some d => obtain ⟨d', hd', s⟩ := (delegationsOf_same h).get hr; exact .inr ⟨d, d', rfl, hd', s⟩

theorem ser_same {v w : J} (h : SameJ v w) : ser v = ser w := by simp only [ser, h.2.2]

theorem schema_same {m m' : J} (h : SameJ m m') : Schema m → Schema m' := by
  simp only [schema_iff]
  rintro ⟨hs, hall, hS⟩
  refine ⟨isSignable_same h ▸ hs, fun p' hp' => ?_, signedOK_same (signedOf_same h) hS⟩
  obtain ⟨x, hx, s⟩ := (entriesOf_same h).symm.mem hp'
  exact anySigOK_same s.symm (hall _ hx)

theorem ruleMet_same (C : CryptoFns) (gpg : Bool) {d d' u u' : J} (hd : SameJ d d') (hu : SameJ u u') :
    RuleMet C gpg d u ↔ RuleMet C gpg d' u' := by
  unfold RuleMet
  rw [keysOf_same hd, thrOf_same hd, ser_same (signedOf_same hu), thresholdMet_same C gpg _ _ (entriesOf_same hu)]

theorem typeMismatch_same (name : PStr) {u u' : J} (h : SameJ u u') : TypeMismatch name u ↔ TypeMismatch name u' := by
  unfold TypeMismatch
  rw [(signedOf_same h).iff_of_imp signedOK_same, (typeOf_same h).strOf]

-- `(roleOf m k).isSome` is `dictHas k (delegationsOf m)`
theorem isRootMd_same {m m' : J} (h : SameJ m m') : IsRootMd m → IsRootMd m' :=
  fun ⟨a, b, c⟩ => ⟨schema_same h a, (b ▸ typeOf_same h).eq_str, (delegationsOf_same h).has c⟩

theorem verifySignable_same (C : CryptoFns) {env env' : J} (keys thr : J) (gpg : Bool) (h : SameJ env env') :
    verifySignableJ C env keys thr gpg = verifySignableJ C env' keys thr gpg := by
  rw [verifySignable_verdict, verifySignable_verdict, WellTyped, WellTyped, isSignable_same h, ser_same (signedOf_same h),
    thresholdMet_same C gpg _ _ (entriesOf_same h)]

theorem verifyDelegation_same (C : CryptoFns) (name : PStr) {u u' t t' : J} (gpg : Bool) (hu : SameJ u u') (ht : SameJ t t') :
    verifyDelegationJ C name u t gpg = verifyDelegationJ C name u' t' gpg := by
  rw [verifyDelegation_verdict, verifyDelegation_verdict, ht.iff_of_imp schema_same, isSignable_same hu, typeMismatch_same name hu]
  rcases roleOf_same ht name with ⟨h1, h2⟩ | ⟨d, d', h1, h2, s⟩
  · rw [h1, h2]
  · rw [h1, h2]; simp only [ruleMet_same C gpg s hu]

theorem verifyRoot_same (C : CryptoFns) {t t' u u' : J} (ht : SameJ t t') (hu : SameJ u u') :
    verifyRootJ C t u = verifyRootJ C t' u' := by
  rw [verifyRoot_verdict, verifyRoot_verdict, ht.iff_of_imp isRootMd_same, hu.iff_of_imp isRootMd_same, versionOf_same ht, versionOf_same hu,
    ruleMet_same C true (rootRule_same ht) hu, ruleMet_same C true (rootRule_same hu) hu]

-- a write/load cycle replaces a value by `canon` of it (`C08.load_write`): these are the verdicts on reloaded arguments
theorem verifySignable_canon (C : CryptoFns) (env keys thr : J) (gpg : Bool) (h : env.WF) :
    verifySignableJ C (canon env) keys thr gpg = verifySignableJ C env keys thr gpg :=
  (verifySignable_same C keys thr gpg (.of_canon h)).symm

theorem schema_canon (m : J) (h : m.WF) : Schema (canon m) ↔ Schema m :=
  ((SameJ.of_canon h).iff_of_imp schema_same).symm

theorem verifyDelegation_canon (C : CryptoFns) (name : PStr) (u t : J) (gpg : Bool) (hu : u.WF) (ht : t.WF) :
    verifyDelegationJ C name (canon u) (canon t) gpg = verifyDelegationJ C name u t gpg :=
  (verifyDelegation_same C name gpg (.of_canon hu) (.of_canon ht)).symm

theorem verifyRoot_canon (C : CryptoFns) (t u : J) (ht : t.WF) (hu : u.WF) :
    verifyRootJ C (canon t) (canon u) = verifyRootJ C t u :=
  (verifyRoot_same C (.of_canon ht) (.of_canon hu)).symm

end CCT
