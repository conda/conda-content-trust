import CCT.Model.Time
import CCT.Lemmas.Base
/-!
`strptime` accepts what `isoformat()+"Z"` prints (for every valid date-time), and parses it back to the same value; `+ timedelta(days=n)`
(`addDays`) keeps a date-time valid as long as the year stays within 9999, moves the date forward and leaves the time of day.
-/
namespace CCT

theorem ndVal_ascii (k : Nat) (h : k < 10) : ndVal (48 + k) = some k := by
  unfold ndVal ndStarts ndValIn
  have : 48 ≤ 48 + k ∧ 48 + k < 48 + 10 := ⟨Nat.le_add_right .., Nat.add_lt_add_left h 48⟩
  simp [this]

theorem asciiDigitIn_ok (lo hi k : Nat) (h1 : lo ≤ 48 + k) (h2 : 48 + k ≤ hi) : asciiDigitIn lo hi (48 + k) = some k := by
  simp [asciiDigitIn, h1, h2]

theorem monthVal_pad2 : ∀ m, m ≤ 12 → 1 ≤ m → monthVal (pad2 m) = some m := by decide
theorem dayVal_pad2 : ∀ d, d ≤ 31 → 1 ≤ d → dayVal (pad2 d) = some d := by decide
theorem hourVal_pad2 : ∀ h, h ≤ 23 → hourVal (pad2 h) = some h := by decide
theorem minuteVal_pad2 (m : Nat) (hm : m ≤ 59) : minuteVal (pad2 m) = some m := by
  -- the tens digit is at most 5, so the field is read as `[0-5]\d`
  have ht : m / 10 < 6 := Nat.div_lt_of_lt_mul (Nat.lt_succ_of_le hm)
  have e : m / 10 % 10 = m / 10 := Nat.mod_eq_of_lt (Nat.lt_trans ht (by decide))
  rw [pad2, e, minuteVal, if_pos ⟨Nat.le_add_right .., Nat.add_le_add_left (Nat.le_of_lt_succ ht) 48⟩,
    ndVal_ascii _ (Nat.mod_lt _ (by decide)), Option.map_some, Nat.add_sub_cancel_left, Nat.div_add_mod']

/-- `6[0-1]|[0-5]\d|\d` is `[0-5]\d|\d` on a field that does not begin with `6` -/
theorem secondVal_eq_minuteVal {a b : Nat} (h : a ≠ 54) : secondVal [a, b] = minuteVal [a, b] := if_neg h

theorem secondVal_pad2 (s : Nat) (hs : s ≤ 59) : secondVal (pad2 s) = some s := by
  have h6 : s / 10 % 10 < 6 := Nat.lt_of_le_of_lt (Nat.mod_le _ _) (Nat.div_lt_of_lt_mul (Nat.lt_succ_of_le hs))
  exact (secondVal_eq_minuteVal fun e => Nat.ne_of_lt h6 (Nat.add_left_cancel e)).trans (minuteVal_pad2 s hs)

theorem daysInMonth_le (y m : Nat) : daysInMonth y m ≤ 31 ∧ 28 ≤ daysInMonth y m := by
  fun_cases daysInMonth y m <;> decide

theorem DateTime.valid_iff (d : DateTime) : d.valid = true ↔ 1 ≤ d.year ∧ d.year ≤ 9999 ∧ 1 ≤ d.month ∧ d.month ≤ 12 ∧ 1 ≤ d.day ∧
    d.day ≤ daysInMonth d.year d.month ∧ d.hour ≤ 23 ∧ d.minute ≤ 59 ∧ d.second ≤ 59 := by
  simp only [DateTime.valid, Bool.and_eq_true, decide_eq_true_eq, and_assoc]

/-- the layout that `isoZ` prints; the second character of a two-character field is an ASCII digit, so not the delimiter that follows -/
theorem strptimeFields_layout {y1 y2 y3 y4 m1 m2 d1 d2 H1 H2 M1 M2 S1 S2 a b c e mo da ho mi se : Nat}
    (hy1 : ndVal y1 = some a) (hy2 : ndVal y2 = some b) (hy3 : ndVal y3 = some c) (hy4 : ndVal y4 = some e)
    (hmo : monthVal [m1, m2] = some mo) (hda : dayVal [d1, d2] = some da) (hho : hourVal [H1, H2] = some ho)
    (hmi : minuteVal [M1, M2] = some mi) (hse : secondVal [S1, S2] = some se)
    (n1 : 48 ≤ m2 ∧ m2 ≤ 57) (n2 : 48 ≤ d2 ∧ d2 ≤ 57) (n3 : 48 ≤ H2 ∧ H2 ≤ 57) (n4 : 48 ≤ M2 ∧ M2 ≤ 57) (n5 : 48 ≤ S2 ∧ S2 ≤ 57) :
    strptimeFields [y1, y2, y3, y4, 45, m1, m2, 45, d1, d2, 84, H1, H2, 58, M1, M2, 58, S1, S2, 90] =
      some ⟨((a * 10 + b) * 10 + c) * 10 + e, mo, da, ho, mi, se⟩ := by
  have : m2 ≠ 45 ∧ d2 ≠ 84 ∧ d2 ≠ 116 ∧ H2 ≠ 58 ∧ M2 ≠ 58 ∧ S2 ≠ 90 ∧ S2 ≠ 122 := by omega
  simp [strptimeFields, takeField, *]

theorem strptime_isoZ (d : DateTime) (hv : d.valid = true) : pyStrptimeUtc (isoZ d) = some d := by
  obtain ⟨hy1, hy2, hm1, hm2, hd1, hd2, hh, hmi, hs⟩ := (DateTime.valid_iff d).mp hv
  have hd31 := (daysInMonth_le d.year d.month).1
  have lt (n : Nat) : n % 10 < 10 := Nat.mod_lt _ (by decide)
  have dig (n : Nat) : ndVal (48 + n % 10) = some (n % 10) := ndVal_ascii _ (lt n)
  have asc (n : Nat) : 48 ≤ 48 + n % 10 ∧ 48 + n % 10 ≤ 57 := ⟨Nat.le_add_right .., Nat.add_le_add_left (Nat.le_of_lt_succ (lt n)) 48⟩
  have e : strptimeFields (isoZ d) = some d := by
    unfold isoZ pad4 pad2
    -- to one list literal; rewriting with `List.cons_append` is slow on the left-nested `++`
    dsimp only [HAppend.hAppend, Append.append, List.append]
    rw [strptimeFields_layout (dig _) (dig _) (dig _) (dig _) (monthVal_pad2 d.month hm2 hm1)
      (dayVal_pad2 d.day (Nat.le_trans hd2 hd31) hd1) (hourVal_pad2 d.hour hh)
      (minuteVal_pad2 d.minute hmi) (secondVal_pad2 d.second hs)
      (asc _) (asc _) (asc _) (asc _) (asc _), digits4 (b := 10) rfl rfl (Nat.lt_succ_of_le hy2 : d.year < 1000 * 10)]
  simp only [pyStrptimeUtc, e, hv, if_true]

theorem nextDay_year (d : DateTime) : (nextDay d).year ≤ d.year + 1 ∧ d.year ≤ (nextDay d).year := by
  fun_cases nextDay d with
  | case1 => exact ⟨Nat.le_succ _, Nat.le_refl _⟩  -- within the month
  | case2 => exact ⟨Nat.le_succ _, Nat.le_refl _⟩  -- the first of the next month
  | case3 => exact ⟨Nat.le_refl _, Nat.le_succ _⟩  -- the first of January

theorem addDays_year : ∀ (n : Nat) (d : DateTime), (addDays n d).year ≤ d.year + n ∧ d.year ≤ (addDays n d).year := by
  intro n d
  fun_induction addDays n d with
  | case1 d => exact ⟨Nat.le_refl _, Nat.le_refl _⟩  -- no days
  | case2 n d ih =>  -- the next day, then `n` more
    obtain ⟨h1, h2⟩ := nextDay_year d
    exact ⟨Nat.le_trans ih.1 (Nat.le_trans (Nat.add_le_add_right h1 n) (Nat.le_of_eq (Nat.add_right_comm ..))), Nat.le_trans h2 ih.2⟩

theorem nextDay_valid (d : DateTime) (hv : d.valid = true) : (nextDay d).year ≤ 9999 → (nextDay d).valid = true := by
  obtain ⟨hy1, hy2, hm1, hm2, hd1, hd2, hh, hmi, hs⟩ := (DateTime.valid_iff d).mp hv
  have first (y m : Nat) : 1 ≤ daysInMonth y m := Nat.le_trans (show 1 ≤ 28 by decide) (daysInMonth_le y m).2
  rw [DateTime.valid_iff]
  fun_cases nextDay d with
  | case1 h => exact fun _ => ⟨hy1, hy2, hm1, hm2, Nat.le_add_left .., h, hh, hmi, hs⟩
  | case2 _ h => exact fun _ => ⟨hy1, hy2, Nat.le_add_left .., h, Nat.le_refl 1, first .., hh, hmi, hs⟩
  | case3 =>
    exact fun hy => ⟨Nat.le_add_left .., hy, Nat.le_refl 1, show 1 ≤ 12 by decide, Nat.le_refl 1, first .., hh, hmi, hs⟩

theorem addDays_valid' : ∀ (n : Nat) (d : DateTime), d.valid = true → (addDays n d).year ≤ 9999 → (addDays n d).valid = true := by
  intro n
  induction n with
  | zero => exact fun _ hv _ => hv
  | succ n ih => exact fun d hv hy => ih (nextDay d) (nextDay_valid d hv (Nat.le_trans (addDays_year n (nextDay d)).2 hy)) hy

theorem addDays_valid : ∀ (n : Nat) (d : DateTime), d.valid = true → d.year + n ≤ 9999 → (addDays n d).valid = true :=
  fun n d hv hy => addDays_valid' n d hv (Nat.le_trans (addDays_year n d).1 hy)

def dateLt (a b : DateTime) : Prop := a.year < b.year ∨ (a.year = b.year ∧ (a.month < b.month ∨ (a.month = b.month ∧ a.day < b.day)))

/-- one level of a lexicographic order on numbers: it composes when the order on the rest does -/
theorem lexLt_trans {x y z : Nat} {P Q R : Prop} (h1 : x < y ∨ x = y ∧ P) (h2 : y < z ∨ y = z ∧ Q) (k : P → Q → R) :
    x < z ∨ x = z ∧ R := by
  rcases h1 with h1 | ⟨rfl, p⟩
  · exact .inl (Nat.lt_of_lt_of_le h1 (h2.elim Nat.le_of_lt fun h => Nat.le_of_eq h.1))
  · exact h2.imp_right fun ⟨e, q⟩ => ⟨e, k p q⟩

theorem dateLt_trans {a b c : DateTime} (h1 : dateLt a b) (h2 : dateLt b c) : dateLt a c :=
  lexLt_trans h1 h2 fun p q => lexLt_trans p q Nat.lt_trans

theorem nextDay_later (d : DateTime) : dateLt d (nextDay d) ∧ (nextDay d).hour = d.hour ∧ (nextDay d).minute = d.minute ∧ (nextDay d).second = d.second := by
  fun_cases nextDay d with
  | case1 => exact ⟨.inr ⟨rfl, .inr ⟨rfl, Nat.lt_succ_self _⟩⟩, rfl, rfl, rfl⟩
  | case2 => exact ⟨.inr ⟨rfl, .inl (Nat.lt_succ_self _)⟩, rfl, rfl, rfl⟩
  | case3 => exact ⟨.inl (Nat.lt_succ_self _), rfl, rfl, rfl⟩

theorem addDays_later : ∀ (n : Nat) (d : DateTime), dateLt d (addDays (n + 1) d) ∧ (addDays (n + 1) d).hour = d.hour ∧
    (addDays (n + 1) d).minute = d.minute ∧ (addDays (n + 1) d).second = d.second := by
  intro n
  induction n with
  | zero => exact nextDay_later
  | succ n ih =>
    intro d
    have h1 := nextDay_later d
    have h2 := ih (nextDay d)
    exact ⟨dateLt_trans h1.1 h2.1, h2.2.1.trans h1.2.1, h2.2.2.1.trans h1.2.2.1, h2.2.2.2.trans h1.2.2.2⟩

end CCT
