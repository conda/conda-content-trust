import CCT.Lemmas.Base
/-!
The two leaves of the parser that the string and value levels rest on: `skipWs` passes the line break and indentation the serializer writes
(`nl`), and `parseHex4` reads the four digits of a `\uXXXX` escape back (`hex4`) and returns nothing but values below `0x10000`.
-/
namespace CCT

theorem skipWs_replicate (n : Nat) (r : Txt) : skipWs (List.replicate n cSp ++ r) = skipWs r := by
  induction n with
  | zero => simp
  | succ k ih => simp [List.replicate_succ, skipWs, isWs, ih]

@[simp] theorem skipWs_nl (n : Nat) (r : Txt) : skipWs (nl n ++ r) = skipWs r := by
  simp [nl, skipWs, isWs, skipWs_replicate]

theorem skipWs_nonws {c : Nat} {r : Txt} (h : isWs c = false) : skipWs (c :: r) = c :: r := by
  simp [skipWs, h]

theorem hexVal_hexDigit : ∀ d < 16, hexVal (hexDigit d) = some d := by decide

theorem hexVal_some {c v : Nat} (h : hexVal c = some v) :
    48 ≤ c ∧ c ≤ 57 ∧ c = v + 48 ∨ 97 ≤ c ∧ c ≤ 102 ∧ c = v + 87 ∨ 65 ≤ c ∧ c ≤ 70 ∧ c = v + 55 := by
  revert h
  fun_cases hexVal c with
  | case1 h1 => exact fun h => Option.some.inj h ▸ .inl ⟨h1.1, h1.2, (Nat.sub_add_cancel h1.1).symm⟩  -- `0` to `9`
  | case2 _ h2 => exact fun h => Option.some.inj h ▸ .inr (.inl ⟨h2.1, h2.2, (Nat.sub_add_cancel (Nat.le_trans (by decide) h2.1)).symm⟩)  -- `a` to `f`
  | case3 _ _ h3 => exact fun h => Option.some.inj h ▸ .inr (.inr ⟨h3.1, h3.2, (Nat.sub_add_cancel (Nat.le_trans (by decide) h3.1)).symm⟩)  -- `A` to `F`
  | case4 => nofun  -- no hex digit

theorem hexVal_lt {c v : Nat} (h : hexVal c = some v) : v < 16 := by
  have := hexVal_some h
  omega

theorem parseHex4_digits {a b c d : Nat} (ha : a < 16) (hb : b < 16) (hc : c < 16) (hd : d < 16) (r : Txt) :
    parseHex4 (hexDigit a :: hexDigit b :: hexDigit c :: hexDigit d :: r) = some (((a * 16 + b) * 16 + c) * 16 + d, r) := by
  simp only [parseHex4, hexVal_hexDigit, ha, hb, hc, hd]

theorem parseHex4_hex4 (n : Nat) (h : n < 65536) (r : Txt) : parseHex4 (hex4 n ++ r) = some (n, r) := by
  have m := fun k => Nat.mod_lt k (show 0 < 16 by decide)
  simp only [hex4, List.cons_append, List.nil_append, parseHex4_digits (m _) (m _) (m _) (m _), digits4 (b := 16) rfl rfl h]

theorem parseHex4_spec {t : Txt} {u : Nat} {r : Txt} (h : parseHex4 t = some (u, r)) :
    u < 65536 ∧ ∃ a b c d, t = a :: b :: c :: d :: r := by
  revert h
  fun_cases parseHex4 t with
  | case1 a b c d r0 va vb vc vd hd hc hb ha =>  -- four hex digits
    rintro ⟨⟩
    exact ⟨mul_add_lt (mul_add_lt (mul_add_lt (hexVal_lt ha) (hexVal_lt hb)) (hexVal_lt hc)) (hexVal_lt hd), a, b, c, d, rfl⟩
  | _ => nofun

end CCT
