import CCT.Lemmas.Base
import CCT.Model.GpgSteps
/-!
The two step machines (`runSteps`, `runGpgSteps`) are one run function applied to two `exec` functions.  What the fault-injection theorems of C18 need
of a run — what a fault before a given step leaves, what all steps preserve, where a run without fault can fail — is proved here once, for any `exec`;
then, for each machine, when a step succeeds and what it does to the state (`execStep_ok`, `execGpgStep_ok`).
-/
namespace CCT

def runPlan {σ τ : Type} (exec : σ → τ → Res σ) (fault : Option Nat) : Nat → List τ → σ → RunResult × σ
  | _, [], st => (.done, st)
  | i, s :: r, st =>
    if fault = some i then (.injected i, st)
    else match exec st s with
      | .ok st' => runPlan exec fault (i + 1) r st'
      | .error e => (.failed e, st)

theorem runSteps_eq_runPlan (C : CryptoFns) (key : J) (fault : Option Nat) (steps : List SignStep) : ∀ (i : Nat) (st : SignSt),
    runSteps C key fault i steps st = runPlan (execStep C key) fault i steps st := by
  induction steps with
  | nil => exact fun _ _ => rfl
  | cons s r ih =>
    intro i st
    simp only [runSteps, runPlan, ih]
    cases execStep C key st s <;> rfl

theorem runGpgSteps_eq_runPlan (G : GpgBackend) (sslib : Bool) (fpr : J) (fault : Option Nat) (steps : List GpgStep) : ∀ (i : Nat) (st : GpgSt),
    runGpgSteps G sslib fpr fault i steps st = runPlan (execGpgStep G sslib fpr) fault i steps st := by
  induction steps with
  | nil => exact fun _ _ => rfl
  | cons s r ih =>
    intro i st
    simp only [runGpgSteps, runPlan, ih]
    cases execGpgStep G sslib fpr st s <;> rfl

section
variable {σ τ : Type} (exec : σ → τ → Res σ)

theorem runPlan_append (fault : Option Nat) : ∀ (pre post : List τ) (i : Nat) (st : σ),
    runPlan exec fault i (pre ++ post) st =
      if (runPlan exec fault i pre st).1 = .done then runPlan exec fault (i + pre.length) post (runPlan exec fault i pre st).2
      else runPlan exec fault i pre st := by
  intro pre post i st
  -- the four branches of `runPlan`, here and below: no step left; fault injected at this step; step succeeds; step fails
  fun_induction runPlan exec fault i pre st with
  | case1 => rfl
  | case2 i s r st h =>
    simp only [List.cons_append, runPlan, h, if_true]
    rfl
  | case3 i s r st h st' he ih => simp only [List.cons_append, runPlan, h, he, if_false, ih, List.length_cons, Nat.add_assoc, Nat.add_comm 1]
  | case4 i s r st h e he =>
    simp only [List.cons_append, runPlan, h, he, if_false]
    rfl

theorem runPlan_preserves (Q : σ → Prop) (fault : Option Nat) (steps : List τ) (i : Nat) (st : σ)
    (hs : ∀ s ∈ steps, ∀ st st', Q st → exec st s = .ok st' → Q st') (h : Q st) : Q (runPlan exec fault i steps st).2 := by
  fun_induction runPlan exec fault i steps st with
  | case3 i s r st _ st' he ih => exact ih (fun x hx => hs x (.tail _ hx)) (hs s (.head _) st st' h he)
  | _ => exact h

/-- `k = i + pre.length` is the fault at the first step of `post` -/
theorem runPlan_fault_le {k i : Nat} {pre post : List τ} {st : σ} (h1 : i ≤ k) (h2 : k ≤ i + pre.length) :
    (runPlan exec (some k) i (pre ++ post) st).2 = (runPlan exec (some k) i pre st).2 := by
  fun_induction runPlan exec (some k) i pre st with
  | case1 i st =>
    -- `pre` is exhausted, so `k = i`: the next step, if there is one, is the fault
    cases Nat.le_antisymm h1 h2
    cases post <;> simp only [runPlan, List.nil_append, if_true]
  | case2 i s r st h => simp only [List.cons_append, runPlan, h, if_true]
  | case3 i s r st h st' he ih =>
    simp only [List.cons_append, runPlan, h, he, if_false]
    refine ih (Nat.lt_of_le_of_ne h1 fun e => h (e ▸ rfl)) ?_
    rwa [List.length_cons, ← Nat.add_assoc, Nat.add_right_comm] at h2
  | case4 i s r st h e he => simp only [List.cons_append, runPlan, h, he, if_false]

theorem runPlan_done_cons {i : Nat} {s : τ} {r : List τ} {st fin : σ} :
    runPlan exec none i (s :: r) st = (.done, fin) ↔ ∃ st', exec st s = .ok st' ∧ runPlan exec none (i + 1) r st' = (.done, fin) := by
  simp only [runPlan, reduceCtorEq, if_false]
  cases exec st s <;> simp

theorem runPlan_failed_in_prefix {pre post : List τ} {i : Nat} {st fin : σ} {e : PyErr}
    (hpost : ∀ i st, (runPlan exec none i post st).1 = .done) (h : runPlan exec none i (pre ++ post) st = (.failed e, fin)) :
    runPlan exec none i pre st = (.failed e, fin) := by
  rw [runPlan_append] at h
  split at h
  · have := hpost (i + pre.length) (runPlan exec none i pre st).2
    rw [h] at this
    cases this
  · exact h

end

theorem execStep_ok (C : CryptoFns) (key : J) (st st' : SignSt) (s : SignStep) :
    execStep C key st s = .ok st' ↔ match s with
      | .validate => checkHexKeyJ key = .ok () ∧ st = st'
      | .openRead => st.file ≠ none ∧ { st with opens := st.opens ++ [.read] } = st'
      | .parse => ∃ d, loadFile st.file = .ok d ∧ { st with doc := d } = st'
      | .checkPackages => pyInStr (ps! "packages") st.doc = .ok true ∧ st = st'
      | .reset => ∃ top, st.doc = .obj top ∧ { st with doc := .obj (dictSet top (ps! "signatures") (.obj [])), sigs := [] } = st'
      | .signOne name md => { st with sigs := dictSet st.sigs name (.obj [(hexOfBytes (C.pubOf (unhex (strOf key))), sigDictOf (serializeAndSign C md (unhex (strOf key))))]) } = st'
      | .finish => ∃ top, st.doc = .obj top ∧ { st with doc := .obj (dictSet top (ps! "signatures") (.obj st.sigs)) } = st'
      | .serialize => { st with out := some (ser st.doc) } = st'
      | .openTrunc => { st with opens := st.opens ++ [.write], file := some [] } = st'
      | .write => { st with file := st.out } = st' := by
  cases s <;> simp only [execStep]
  case validate => cases checkHexKeyJ key <;> simp only [ok_bind, error_bind, pure_eq_ok, Except.ok.injEq, reduceCtorEq, false_and, true_and]
  case openRead => cases st.file <;> simp only [Except.ok.injEq, reduceCtorEq, ne_eq, not_true_eq_false, not_false_eq_true, false_and, true_and]
  case parse => cases loadFile st.file <;> simp only [Except.ok.injEq, reduceCtorEq, false_and, exists_const, exists_eq_left']
  case checkPackages =>
    cases pyInStr (ps! "packages") st.doc with
    | error e => simp only [error_bind, reduceCtorEq, false_and]
    | ok b => cases b <;> simp only [ok_bind, Bool.not_true, Bool.not_false, Bool.false_eq_true, if_true, if_false, pure_eq_ok, Except.ok.injEq, reduceCtorEq, false_and, true_and]
  case reset => split <;> simp_all
  case finish => split <;> simp_all
  all_goals simp only [Except.ok.injEq]

theorem execGpgStep_ok (G : GpgBackend) (sslib : Bool) (fpr : J) (st st' : GpgSt) (s : GpgStep) :
    execGpgStep G sslib fpr st s = .ok st' ↔ match s with
      | .openRead => st.file ≠ none ∧ { st with opens := st.opens ++ [.read] } = st'
      | .parse => ∃ d, loadFile st.file = .ok d ∧ { st with env := d } = st'
      | .checkDep => sslib = true ∧ st = st'
      | .checkSignable => isSignableJ st.env = true ∧ st = st'
      | .serializeSigned => ∃ top s, st.env = .obj top ∧ dictIndex (ps! "signed") top = .ok s ∧ { st with data := ser s } = st'
      | .callSigner => ∃ s, signViaGpg G sslib (.bytes st.data) fpr false = .ok s ∧ { st with sig := s } = st'
      | .fetchKey => ∃ q, fetchKeyvalFromGpg G sslib fpr = .ok q ∧ { st with q := q } = st'
      | .attach => ∃ top entries, st.env = .obj top ∧ dictIndex (ps! "signatures") top = .ok (.obj entries) ∧
          { st with env := .obj (dictSet top (ps! "signatures") (.obj (dictSet entries st.q st.sig))) } = st'
      | .serialize => { st with out := some (ser st.env) } = st'
      | .openTrunc => { st with opens := st.opens ++ [.write], file := some [] } = st'
      | .write => { st with file := st.out } = st' := by
  cases s <;> simp only [execGpgStep]
  case openRead => cases st.file <;> simp only [Except.ok.injEq, reduceCtorEq, ne_eq, not_true_eq_false, not_false_eq_true, false_and, true_and]
  case parse => cases loadFile st.file <;> simp only [Except.ok.injEq, reduceCtorEq, false_and, exists_const, exists_eq_left']
  case checkDep => cases sslib <;> simp only [checkSslib, okU, ok_bind, error_bind, pure_eq_ok, Except.ok.injEq, reduceCtorEq, Bool.false_eq_true, if_false, if_true, false_and, true_and]
  case checkSignable => cases isSignableJ st.env <;> simp only [Except.ok.injEq, reduceCtorEq, Bool.false_eq_true, if_false, if_true, false_and, true_and]
  case serializeSigned =>
    split
    next top heq => simp only [heq, J.obj.injEq, bind_eq_ok, pure_eq_ok, Except.ok.injEq, exists_and_left, exists_eq_left']
    next hno => exact ⟨nofun, fun ⟨top, _, h, _⟩ => (hno top h).elim⟩
  case callSigner => simp only [bind_eq_ok, pure_eq_ok, Except.ok.injEq]
  case fetchKey => simp only [bind_eq_ok, pure_eq_ok, Except.ok.injEq]
  case attach =>
    split
    next top heq =>
      simp only [heq, J.obj.injEq, exists_and_left, exists_eq_left', bind_eq_ok]
      constructor
      · rintro ⟨sigs, hs, h⟩
        split at h <;> cases h
        exact ⟨_, hs, rfl⟩
      · rintro ⟨_, hs, rfl⟩
        exact ⟨_, hs, rfl⟩
    next hno => exact ⟨nofun, fun ⟨top, _, h, _⟩ => (hno top h).elim⟩
  all_goals simp only [Except.ok.injEq]

end CCT
