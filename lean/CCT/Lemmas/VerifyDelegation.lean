import CCT.Lemmas.Checker
/-!
The parts of delegating metadata as total accessors (those of an envelope are in `VerifySignable`); what the subscripts of the verifiers return on well-formed
arguments (they all succeed, with the accessor's value); the closed form of `verify_delegation`.
-/
namespace CCT
open Classical
open CCT.C15

def typeOf (m : J) : J := jget (ps! "type") (signedOf m)
def delegationsOf (m : J) : List (PStr × J) := match jget (ps! "delegations") (signedOf m) with | .obj d => d | _ => []
def roleOf (m : J) (name : PStr) : Option J := dictGet name (delegationsOf m)
def keysOf (d : J) : List PStr := match jget (ps! "pubkeys") d with | .arr ks => ks.map strOf | _ => []
def thrOf (d : J) : Nat := ((asInt (jget (ps! "threshold") d)).getD 0).toNat
def versionOf (m : J) : Int := (asInt (jget (ps! "version") (signedOf m))).getD 0

theorem keysOf_eq_keyStrs (d : J) : keysOf d = keyStrs (jget (ps! "pubkeys") d) := rfl
theorem thrOf_eq_thrNat (d : J) : thrOf d = thrNat (jget (ps! "threshold") d) := rfl

theorem pyIndexStr_jget {k : PStr} {kvs : List (PStr × J)} {x : J} (h : dictGet k kvs = some x) :
    pyIndexStr k (.obj kvs) = .ok (jget k (.obj kvs)) := by
  rw [jget_obj h]; exact dictIndex_some h

theorem pyIndexStr_signed {m : J} (h : isSignableJ m = true) : pyIndexStr (ps! "signed") m = .ok (signedOf m) := by
  obtain ⟨_, top, rfl, _, hs⟩ := envParts_self h
  exact dictIndex_some hs

theorem schema_signedOnly (s : J) : Schema (signedOnlyEnvelope s) ↔ SignedOK s :=
  (schema_iff_parts (envParts_literal [] s)).trans (and_iff_right nofun)

theorem signedOK_type {s : J} (h : SignedOK s) : ∃ ty, jget (ps! "type") s = .str ty ∧ ty ∈ supportedDelegatingTypes := by
  obtain ⟨kvs, rfl, ⟨ty, hty, hm⟩, _⟩ := h
  exact ⟨ty, jget_obj hty, hm⟩

theorem delegationOK_reads {d : J} (h : DelegationOK d) :
    pyIndexStr (ps! "pubkeys") d = .ok (jget (ps! "pubkeys") d) ∧ pyIndexStr (ps! "threshold") d = .ok (jget (ps! "threshold") d) ∧
    KeyListOK (jget (ps! "pubkeys") d) ∧ NaturalInt (jget (ps! "threshold") d) := by
  obtain ⟨dk, rfl, _, ⟨pk, hpk, h1⟩, ⟨th, hth, h2⟩⟩ := h
  exact ⟨pyIndexStr_jget hpk, pyIndexStr_jget hth, by rwa [jget_obj hpk], by rwa [jget_obj hth]⟩

theorem signedOK_reads {s : J} (h : SignedOK s) :
    pyIndexStr (ps! "type") s = .ok (jget (ps! "type") s) ∧
    (∃ dels, jget (ps! "delegations") s = .obj dels ∧ pyIndexStr (ps! "delegations") s = .ok (.obj dels) ∧ ∀ p ∈ dels, DelegationOK p.2) ∧
    (jget (ps! "type") s = .str (ps! "root") →
      pyIndexStr (ps! "version") s = .ok (jget (ps! "version") s) ∧ NaturalInt (jget (ps! "version") s)) := by
  obtain ⟨kvs, rfl, ⟨ty, hty, _⟩, _, ⟨dl, hdl, ⟨dels, rfl, hdok⟩⟩, _, _, hroot, _, hver⟩ := h
  refine ⟨pyIndexStr_jget hty, ⟨dels, jget_obj hdl, by rw [pyIndexStr_jget hdl, jget_obj hdl], hdok⟩, fun hr => ?_⟩
  rw [jget_obj hty] at hr
  obtain ⟨v, hv⟩ := dictHas_iff.mp (hroot (hr ▸ hty))
  exact ⟨pyIndexStr_jget hv, by rw [jget_obj hv]; exact hver v hv⟩

/-- a type declared by the signed portion that differs from the role it is presented for -/
def TypeMismatch (name : PStr) (u : J) : Prop := SignedOK (signedOf u) ∧ strOf (typeOf u) ≠ name

theorem schema_delegations {m : J} (h : Schema m) :
    pyIndexStr (ps! "delegations") (signedOf m) = .ok (.obj (delegationsOf m)) ∧ ∀ p ∈ delegationsOf m, DelegationOK p.2 := by
  obtain ⟨_, ⟨dels, hdels, hrd, hdok⟩, _⟩ := signedOK_reads ((schema_iff m).mp h).2.2
  have e : delegationsOf m = dels := by simp [delegationsOf, hdels]
  rw [e]; exact ⟨hrd, hdok⟩

theorem mem_delegations_ok {m : J} (h : Schema m) {name : PStr} {d : J} (hr : roleOf m name = some d) : DelegationOK d :=
  (schema_delegations h).2 _ (mem_of_dictGet hr)

/-- `authentication.py:228-236` (and 67-69, 76-78 of `verify_root`): looking a role up in well-formed metadata fails only when the role is not delegated -/
theorem roleLookup_eq {α : Type} {t : J} (hT : Schema t) (name : PStr) (E : PyErr) (G : J → Res α) :
    (do let delegations ← pyIndexStr (ps! "delegations") (signedOf t)
        if !(← pyInStr name delegations) then .error E
        else do
          let d ← pyIndexStr name delegations
          G d) =
    match roleOf t name with
    | some d => G d
    | none => .error E := by
  simp only [(schema_delegations hT).1, ok_bind, pyInStr_obj, pyIndexStr_obj, roleOf]
  cases hr : dictGet name (delegationsOf t) with
  | none => simp [dictHas_none hr]
  | some d => simp [dictHas_some hr, dictIndex_some hr]

theorem verifyDelegation_eq (C : CryptoFns) (name : PStr) (u t : J) (gpg : Bool) :
    verifyDelegationJ C name u t gpg =
      if ¬ Schema t ∨ isSignableJ u ≠ true then .error .arg
      else if TypeMismatch name u then .error .metadataVerification
      else match roleOf t name with
        | none => .error .unknownRole
        | some d => verifySignableJ C u (jget (ps! "pubkeys") d) (jget (ps! "threshold") d) gpg := by
  unfold verifyDelegationJ
  rw [checkDelegatingMd_eq]
  by_cases hT : Schema t
  case neg => rw [if_neg hT, if_pos (Or.inl hT)]; rfl
  by_cases hU : isSignableJ u = true
  case neg => rw [if_pos hT, checkSignableJ, if_neg hU, if_pos (Or.inr hU)]; rfl
  rw [if_neg (not_or.mpr ⟨not_not_intro hT, not_not_intro hU⟩)]
  -- the `do` block has a join point: the role lookup, entered from the three ways out of the type check (209-225); it is kept as a `have`
  simp -zeta only [if_pos hT, checkSignableJ, if_pos hU, okU, ok_bind, pyIndexStr_signed hU, pyIndexStr_signed ((schema_iff t).mp hT).1,
    checkDelegatingMd_eq, schema_signedOnly]
  extract_lets lookup
  have hl : lookup () = match roleOf t name with
      | none => .error .unknownRole
      | some d => verifySignableJ C u (jget (ps! "pubkeys") d) (jget (ps! "threshold") d) gpg := by
    simp only [lookup, roleLookup_eq hT]
    cases hr : roleOf t name with
    | none => rfl
    | some d => obtain ⟨e1, e2, _⟩ := delegationOK_reads (mem_delegations_ok hT hr); simp only [e1, e2, ok_bind]
  clear_value lookup
  rw [← hl]
  by_cases hS : SignedOK (signedOf u)
  · simp only [hS, if_true, (signedOK_reads hS).1, ok_bind, error_bind, TypeMismatch, true_and, typeOf]
  · simp only [hS, if_false, TypeMismatch, false_and]

end CCT
