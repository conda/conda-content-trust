import CCT.Lemmas.Threshold
/-! `verify_signable` in closed form: argument checks, then the threshold test. -/
namespace CCT
open Classical
open CCT.C15

theorem allHexKeys_eq (ks : List J) : allHexKeys ks = .ok (decide (∀ k ∈ ks, HexN 64 k)) := by
  induction ks with
  | nil => simp [allHexKeys]
  | cons k r ih => simp only [allHexKeys, isHexKey_eq, ih, ok_bind, pure_eq_ok, List.forall_mem_cons, Bool.decide_and]

/-- `env` passes `is_signable` and is an object whose `"signatures"` member is the object `entries` and whose `"signed"` member is `signed`:
what `verify_signable` reads of its first argument -/
structure EnvParts (env : J) (entries : List (PStr × J)) (signed : J) : Prop where
  signable : isSignableJ env = true
  top : ∃ top, env = .obj top ∧ dictGet (ps! "signatures") top = some (.obj entries) ∧ dictGet (ps! "signed") top = some signed

/-- the envelope that `wrap_as_signable` and the type check of `verify_delegation` build -/
theorem envParts_literal (entries : List (PStr × J)) (signed : J) :
    EnvParts (.obj [(ps! "signatures", .obj entries), (ps! "signed", signed)]) entries signed :=
  ⟨rfl, _, rfl, rfl, rfl⟩

theorem envParts_set_entries {top entries : List (PStr × J)} {signed : J} (hp : EnvParts (.obj top) entries signed) (e : List (PStr × J)) :
    EnvParts (.obj (dictSet top (ps! "signatures") (.obj e))) e signed := by
  obtain ⟨hsg, _, h, _, h2⟩ := hp
  cases h
  refine ⟨?_, _, rfl, dictGet_dictSet_same, (dictGet_dictSet_other (by decide)).trans h2⟩
  simp only [isSignableJ, Bool.and_eq_true] at hsg ⊢
  exact ⟨keysetEq_dictSet_existing hsg.1 (by decide), by rw [dictGet_dictSet_same]⟩

/-- `entryField`, under the name used for envelopes and metadata -/
abbrev jget := entryField

def signedOf (m : J) : J := jget (ps! "signed") m
def entriesOf (m : J) : List (PStr × J) := match jget (ps! "signatures") m with | .obj e => e | _ => []

theorem jget_obj {k : PStr} {kvs : List (PStr × J)} {x : J} (h : dictGet k kvs = some x) : jget k (.obj kvs) = x := by
  simp [jget, entryField, h]

theorem envParts_accessors {m : J} {entries : List (PStr × J)} {signed : J} (hp : EnvParts m entries signed) :
    signedOf m = signed ∧ entriesOf m = entries := by
  obtain ⟨_, top, rfl, h1, h2⟩ := hp
  simp [signedOf, entriesOf, jget_obj h1, jget_obj h2]

theorem envParts_self {m : J} (h : isSignableJ m = true) : EnvParts m (entriesOf m) (signedOf m) := by
  cases m with
  | obj top =>
    obtain ⟨hk, hm⟩ := Bool.and_eq_true_iff.mp h
    obtain ⟨sg, hsg⟩ := dictGet_of_keysetEq hk (k := ps! "signed") (by decide)
    cases hs : dictGet (ps! "signatures") top with
    | none => rw [hs] at hm; cases hm
    | some s =>
      rw [hs] at hm
      cases s with
      | obj entries => exact ⟨h, top, rfl, by rw [entriesOf, jget_obj hs]; exact hs, by rw [signedOf, jget_obj hsg]; exact hsg⟩
      | _ => cases hm
  | _ => cases h

/-- the argument checks of `verify_signable` pass -/
def WellTyped (env keys thr : J) : Prop :=
  isSignableJ env = true ∧ (∃ ks, keys = .arr ks ∧ ∀ k ∈ ks, HexN 64 k) ∧ ∃ t, asInt thr = some t ∧ 0 < t

theorem verifySignable_illtyped (C : CryptoFns) (env keys thr : J) (gpg : Bool) (h : ¬ WellTyped env keys thr) :
    verifySignableJ C env keys thr gpg = .error .arg := by
  unfold verifySignableJ
  by_cases hs : isSignableJ env = true
  · rw [ite_not_bool, if_pos hs]
    cases keys with
    | arr ks =>
      dsimp only
      rw [allHexKeys_eq, ok_bind, ite_not_bool]
      by_cases hk : ∀ k ∈ ks, HexN 64 k
      · rw [if_pos (decide_eq_true hk)]
        cases ht : asInt thr with
        | none => rfl
        | some t => exact if_pos (Int.not_lt.mp fun hp => h ⟨hs, ⟨ks, rfl, hk⟩, t, ht, hp⟩)
      · exact if_neg (by rwa [decide_eq_true_eq])
    | _ => rfl
  · rw [ite_not_bool, if_neg hs]

theorem verifySignable_welltyped (C : CryptoFns) (env keys thr : J) (gpg : Bool) (entries : List (PStr × J)) (signed : J)
    (ks : List J) (t : Int) (hp : EnvParts env entries signed) (hkeys : keys = .arr ks) (hk : ∀ k ∈ ks, HexN 64 k)
    (ht : asInt thr = some t) (hpos : 0 < t) :
    verifySignableJ C env keys thr gpg =
      if ThresholdMet C gpg (ks.map strOf) (ser signed) entries t.toNat then .ok () else .error .signature := by
  obtain ⟨hs, top, rfl, hsig, hsgn⟩ := hp
  subst hkeys
  obtain ⟨good, hloop, hthr⟩ := verifyLoop_threshold C gpg (ks.map strOf) (ser signed) entries
  -- at the end `len(good) < t` in ℤ stands against `t.toNat ≤ len(good)` in ℕ (`Int.toNat_le`)
  simp only [verifySignableJ, hs, allHexKeys_eq, decide_eq_true hk, ht, Int.not_le.mpr hpos, dictIndex_some hsig, dictIndex_some hsgn, hloop,
    ok_bind, okU_eq, Bool.not_true, Bool.false_eq_true, if_false, ← hthr, Int.toNat_le, ← Int.not_lt, ite_not]

/-- the strings of a key-list argument and the threshold argument as a number (`[]` and `0` for ill-typed arguments) -/
def keyStrs : J → List PStr
  | .arr ks => ks.map strOf
  | _ => []
def thrNat (thr : J) : Nat := ((asInt thr).getD 0).toNat

theorem verifySignable_verdict (C : CryptoFns) (env keys thr : J) (gpg : Bool) :
    verifySignableJ C env keys thr gpg =
      if WellTyped env keys thr then
        (if ThresholdMet C gpg (keyStrs keys) (ser (signedOf env)) (entriesOf env) (thrNat thr) then .ok () else .error .signature)
      else .error .arg := by
  by_cases hw : WellTyped env keys thr
  · obtain ⟨hs, ⟨ks, rfl, hk⟩, t, ht, hpos⟩ := id hw
    rw [if_pos hw, verifySignable_welltyped C env _ thr gpg _ _ ks t (envParts_self hs) rfl hk ht hpos, thrNat, ht]
    rfl
  · rw [if_neg hw, verifySignable_illtyped C env keys thr gpg hw]

theorem verifySignable_one {C : CryptoFns} {gpg : Bool} {env : J} {entries : List (PStr × J)} {signed : J} {k : PStr} {sig : J}
    (hp : EnvParts env entries signed) (hm : (k, sig) ∈ entries) (hc : Counts C gpg [k] (ser signed) k sig) :
    verifySignableJ C env (.arr [.str k]) (.int 1) gpg = .ok () := by
  rw [verifySignable_welltyped C env _ _ gpg entries signed [.str k] 1 hp rfl (fun _ hx => List.mem_singleton.mp hx ▸ hc.1) rfl (by decide)]
  exact if_pos (thresholdMet_one hm hc)

end CCT
