import CCT.Lemmas.JsonWs
/-!
Strings.  The parser joins an escaped high surrogate that is followed by an escaped low one into one astral code point, so the round trip
(`parseStr_serStr`) is for strings without such an adjacent pair (`StrOK`).  The parser's string loop gets one equation per kind of character
or escape it can meet before the closing quote (the closing quote, a raw control character and the end of the text have none); `Cls` is the
serializer's side, and `parseStrBody_escChar` puts the two together.
-/
namespace CCT

def isHigh (c : Nat) : Prop := 0xd800 ≤ c ∧ c ≤ 0xdbff
def isLow (c : Nat) : Prop := 0xdc00 ≤ c ∧ c ≤ 0xdfff
instance : DecidablePred isHigh := fun c => by unfold isHigh; infer_instance
instance : DecidablePred isLow := fun c => by unfold isLow; infer_instance

def StartsLowEsc (t : Txt) : Prop := ∃ r u r', t = 92 :: 117 :: r ∧ parseHex4 r = some (u, r') ∧ 0xdc00 ≤ u ∧ u ≤ 0xdfff

def StrOK : PStr → Prop
  | [] => True
  | [c] => c < 0x110000
  | c :: d :: r => c < 0x110000 ∧ ¬ (isHigh c ∧ isLow d) ∧ StrOK (d :: r)

/-- the parser's one-character escapes `\" \\ \/ \n \r \t \b \f`: escape letter ↦ code point -/
def simpleEsc : Nat → Option Nat
  | 34 => some 34 | 92 => some 92 | 47 => some 47 | 110 => some 10 | 114 => some 13
  | 116 => some 9 | 98 => some 8 | 102 => some 12 | _ => none

theorem simpleEsc_spec {e x : Nat} (h : simpleEsc e = some x) : 32 ≤ e ∧ e < 127 ∧ e ≠ 117 ∧ x < 128 := by
  revert h
  fun_cases simpleEsc e <;> rintro ⟨⟩ <;> decide

theorem parseStrBody_plain {c : Nat} (h1 : c ≠ 34) (h2 : c ≠ 92) (h3 : 32 ≤ c) (f : Nat) (cs : Txt) (acc : PStr) :
    parseStrBody (f+1) (c :: cs) acc = parseStrBody f cs (acc ++ [c]) := by
  simp [parseStrBody, cQuote, cBsl, h1, h2, Nat.not_lt.mpr h3]

theorem parseStrBody_simple {e x : Nat} (h : simpleEsc e = some x) (f : Nat) (r : Txt) (acc : PStr) :
    parseStrBody (f+1) (92 :: e :: r) acc = parseStrBody f r (acc ++ [x]) := by
  revert h
  fun_cases simpleEsc e <;> rintro ⟨⟩ <;> rfl

theorem parseStrBody_badEsc {e : Nat} (h : simpleEsc e = none) (hu : e ≠ 117) (f : Nat) (r : Txt) (acc : PStr) :
    parseStrBody (f+1) (92 :: e :: r) acc = none := by
  have ne : ∀ x y, simpleEsc x = some y → e ≠ x := fun x y hx he => by rw [he, hx] at h; cases h
  simp [parseStrBody, cQuote, cBsl, ne 34 34 rfl, ne 92 92 rfl, ne 47 47 rfl, ne 110 10 rfl, ne 114 13 rfl, ne 116 9 rfl,
    ne 98 8 rfl, ne 102 12 rfl, hu]

theorem parseStrBody_u_none {r : Txt} (h : parseHex4 r = none) (f : Nat) (acc : PStr) :
    parseStrBody (f+1) (92 :: 117 :: r) acc = none := by
  simp [parseStrBody, cQuote, cBsl, h]

theorem parseStrBody_u_single {r r' : Txt} {u : Nat} (hp : parseHex4 r = some (u, r')) (h : ¬ (isHigh u ∧ StartsLowEsc r'))
    (f : Nat) (acc : PStr) : parseStrBody (f+1) (92 :: 117 :: r) acc = parseStrBody f r' (acc ++ [u]) := by
  simp only [parseStrBody, cQuote, cBsl, hp, Nat.reduceEqDiff, ↓reduceIte]
  -- the parser's four tests for a pair; all four passing is what `h` excludes, and every other way out is the right-hand side
  split
  · next hu =>                -- `u` is a high surrogate
    split
    · next r'' =>             -- the rest begins `\u`
      split
      · next u2 r''' hp2 =>   -- four hex digits follow
        split
        · next hl => exact absurd ⟨hu, r'', u2, r''', rfl, hp2, hl⟩ h    -- their value is a low surrogate
        · rfl
      · rfl
    · rfl
  · rfl

theorem parseStrBody_u_pair {r r1 r2 : Txt} {u u2 : Nat} (hp : parseHex4 r = some (u, 92 :: 117 :: r1)) (hp2 : parseHex4 r1 = some (u2, r2))
    (hu : isHigh u) (hu2 : isLow u2) {x : Nat} (hx : x = 0x10000 + (u - 0xd800) * 1024 + (u2 - 0xdc00)) (f : Nat) (acc : PStr) :
    parseStrBody (f+1) (92 :: 117 :: r) acc = parseStrBody f r2 (acc ++ [x]) := by
  simp only [isHigh, isLow] at hu hu2
  simp [parseStrBody, cQuote, cBsl, hp, hp2, hu, hu2, hx]

/-- the four ways `escChar` writes a code point: for which `c`, and what -/
inductive Cls (c : Nat) : Prop
  | short (e : Nat) (hc : c < 32 ∨ c = 34 ∨ c = 92) (h : escChar c = [92, e]) (hs : simpleEsc e = some c)
  | plain (hc : 32 ≤ c ∧ c < 127) (h1 : c ≠ 34) (h2 : c ≠ 92) (h : escChar c = [c])
  | bmp (hc : ¬ (32 ≤ c ∧ c < 127)) (hlt : c < 0x10000) (h : escChar c = uesc c)
  | astral (hge : 0x10000 ≤ c) (h : escChar c = uesc (0xd800 + (c - 0x10000) / 1024) ++ uesc (0xdc00 + (c - 0x10000) % 1024))

theorem cls (c : Nat) : Cls c := by
  by_cases hs : c ∈ [34, 92, 10, 13, 9, 8, 12]
  · simp only [List.mem_cons, List.mem_nil_iff, or_false] at hs
    rcases hs with rfl | rfl | rfl | rfl | rfl | rfl | rfl <;> exact .short _ (by decide) rfl rfl
  simp only [List.mem_cons, List.mem_nil_iff, or_false, not_or] at hs
  have e : escChar c = if 32 ≤ c ∧ c < 127 then [c] else if c < 0x10000 then uesc c
      else uesc (0xd800 + (c - 0x10000) / 1024) ++ uesc (0xdc00 + (c - 0x10000) % 1024) := by
    simp only [escChar, hs, if_false]
  by_cases hp : 32 ≤ c ∧ c < 127
  · exact .plain hp hs.1 hs.2.1 (by rw [e, if_pos hp])
  by_cases hb : c < 0x10000
  · exact .bmp hp hb (by rw [e, if_neg hp, if_pos hb])
  · exact .astral (Nat.le_of_not_lt hb) (by rw [e, if_neg hp, if_neg hb])

theorem escChar_pos (c : Nat) : 0 < (escChar c).length := by
  rcases cls c with ⟨_, _, h, _⟩ | ⟨_, _, _, h⟩ | ⟨_, _, h⟩ | ⟨_, h⟩ <;> simp [h, uesc]

/-- the third conjunct has the form of `hx` in `parseStrBody_u_pair` -/
theorem surrogates {c : Nat} (h1 : 0x10000 ≤ c) (h2 : c < 0x110000) :
    isHigh (0xd800 + (c - 0x10000) / 1024) ∧ isLow (0xdc00 + (c - 0x10000) % 1024) ∧
    c = 0x10000 + (0xd800 + (c - 0x10000) / 1024 - 0xd800) * 1024 + (0xdc00 + (c - 0x10000) % 1024 - 0xdc00) := by
  have hq : (c - 0x10000) / 1024 ≤ 1023 := Nat.le_of_lt_succ (Nat.div_lt_of_lt_mul (Nat.sub_lt_left_of_lt_add h1 h2))
  have hm : (c - 0x10000) % 1024 ≤ 1023 := Nat.le_of_lt_succ (Nat.mod_lt _ (by decide))
  refine ⟨⟨Nat.le_add_right _ _, Nat.add_le_add_left hq _⟩, ⟨Nat.le_add_right _ _, Nat.add_le_add_left hm _⟩, ?_⟩
  rw [Nat.add_sub_cancel_left, Nat.add_sub_cancel_left, Nat.add_assoc, Nat.div_add_mod', Nat.add_sub_cancel' h1]

theorem astral_of_surrogates {u u2 : Nat} (hu : isHigh u) (hu2 : isLow u2) :
    0x10000 ≤ 0x10000 + (u - 0xd800) * 1024 + (u2 - 0xdc00) ∧ 0x10000 + (u - 0xd800) * 1024 + (u2 - 0xdc00) < 0x110000 :=
  have a : u - 0xd800 ≤ 1023 := Nat.sub_le_of_le_add hu.2
  have b : u2 - 0xdc00 ≤ 1023 := Nat.sub_le_of_le_add hu2.2
  ⟨Nat.le_trans (Nat.le_add_right _ _) (Nat.le_add_right _ _),
    Nat.lt_succ_of_le (Nat.add_le_add (Nat.add_le_add_left (Nat.mul_le_mul_right 1024 a) _) b)⟩

theorem parseStrBody_escChar (c : Nat) (hc : c < 0x110000) (f : Nat) (t : Txt) (acc : PStr) (hh : isHigh c → ¬ StartsLowEsc t) :
    parseStrBody (f+1) (escChar c ++ t) acc = parseStrBody f t (acc ++ [c]) := by
  rcases cls c with ⟨e, _, h, hs⟩ | ⟨hc, h1, h2, h⟩ | ⟨_, hlt, h⟩ | ⟨hge, h⟩ <;> rw [h]
  · exact parseStrBody_simple hs f t acc
  · exact parseStrBody_plain h1 h2 hc.1 f t acc
  · exact parseStrBody_u_single (parseHex4_hex4 c hlt t) (fun ⟨h1, h2⟩ => hh h1 h2) f acc
  · obtain ⟨hi, lo, e⟩ := surrogates hge hc
    rw [List.append_assoc]
    exact parseStrBody_u_pair (parseHex4_hex4 _ (Nat.lt_of_le_of_lt hi.2 (by decide)) _)
      (parseHex4_hex4 _ (Nat.lt_of_le_of_lt lo.2 (by decide)) t) hi lo e f acc

theorem not_startsLowEsc_quote (rest : Txt) : ¬ StartsLowEsc (34 :: rest) := by
  rintro ⟨r, _, _, h, _⟩
  cases h

theorem not_startsLowEsc_escChar (d : Nat) (hd : d < 0x110000) (hl : ¬ isLow d) (t : Txt) : ¬ StartsLowEsc (escChar d ++ t) := by
  rintro ⟨r, v, r', hr, hp, hv⟩
  -- by the four ways `escChar` writes `d`: a short escape, the character itself, `\uXXXX` of `d` (not low by `hl`), and for an astral
  -- `d` the escape of its high half first, which is no low surrogate
  rcases cls d with ⟨e, _, h, hs⟩ | ⟨_, _, h2, h⟩ | ⟨_, hlt, h⟩ | ⟨hge, h⟩ <;> rw [h] at hr
  · cases hr
    exact (simpleEsc_spec hs).2.2.1 rfl
  · cases hr
    exact h2 rfl
  · cases hr
    cases (parseHex4_hex4 d hlt t).symm.trans hp
    exact hl hv
  · obtain ⟨hi, _⟩ := surrogates hge hd
    rw [List.append_assoc] at hr
    cases hr
    cases (parseHex4_hex4 _ (Nat.lt_of_le_of_lt hi.2 (by decide)) _).symm.trans hp
    unfold isHigh at hi
    omega

theorem StrOK.cons {c : Nat} {s : PStr} (h : StrOK (c :: s)) : c < 0x110000 ∧ StrOK s := by
  cases s with
  | nil => exact ⟨h, trivial⟩
  | cons _ _ => exact ⟨h.1, h.2.2⟩

theorem parseStrBody_escStr (s : PStr) : StrOK s → ∀ (f : Nat) (acc : PStr) (rest : Txt), s.length ≤ f →
    parseStrBody (f+1) (escStr s ++ 34 :: rest) acc = some (acc ++ s, rest) := by
  induction s with
  | nil =>
    intro _ f acc rest _
    simp [escStr, parseStrBody]
  | cons c s ih =>
    intro hs f acc rest hf
    obtain _ | f := f
    · cases hf
    have ⟨hc, hs'⟩ := hs.cons
    rw [escStr, List.append_assoc, parseStrBody_escChar c hc (f+1) _ acc, ih hs' f _ rest (Nat.le_of_succ_le_succ hf), List.append_assoc]
    · rfl
    · intro hhi
      cases s with
      | nil => exact not_startsLowEsc_quote rest
      | cons d r =>
        rw [escStr, List.append_assoc]
        exact not_startsLowEsc_escChar d hs'.cons.1 (fun hl => hs.2.1 ⟨hhi, hl⟩) _

theorem length_le_escStr (s : PStr) : s.length ≤ (escStr s).length := by
  induction s with
  | nil => exact Nat.le_refl _
  | cons c s ih =>
    have := escChar_pos c
    simp only [escStr, List.length_append, List.length_cons]
    omega

theorem parseStr_serStr (s : PStr) (hs : StrOK s) (rest : Txt) : parseStr (escStr s ++ 34 :: rest) = some (s, rest) := by
  -- the fuel of `parseStr` is the length of the text plus one, and the escaped text is at least as long as `s`
  have := length_le_escStr s
  simpa [parseStr] using parseStrBody_escStr s hs (escStr s ++ 34 :: rest).length [] rest (by simp; omega)

theorem strOK_of_small (s : PStr) (h : ∀ c ∈ s, c < 0xd800) : StrOK s := by
  fun_induction StrOK s with
  | case1 => trivial  -- empty string
  | case2 c => exact Nat.lt_trans (h c List.mem_cons_self) (by decide)  -- one character
  | case3 c d r ih =>  -- two or more
    have hc := h c List.mem_cons_self
    exact ⟨Nat.lt_trans hc (by decide), fun hh => absurd hh.1.1 (Nat.not_le.mpr hc), ih fun x hx => h x (List.mem_cons_of_mem _ hx)⟩

end CCT
