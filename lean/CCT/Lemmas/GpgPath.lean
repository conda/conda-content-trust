import CCT.Model.RootSigning
import CCT.Lemmas.JsonStr
import CCT.Lemmas.VerifySignable
/-! The value-level GPG signing path on a signable envelope; lowercase hex text is a well-formed string and, as a fingerprint, already in normal form. -/
namespace CCT

theorem strOK_lowerhex (s : PStr) (h : ∀ c ∈ s, isLowerHexDigit c = true) : StrOK s :=
  strOK_of_small s fun c hc => by have := isLowerHexDigit_iff.mp (h c hc); omega

theorem normalize_of_lowerHex (f : PStr) (h : ∀ c ∈ f, isLowerHexDigit c = true) : normalizeFingerprint f = f := by
  have h1 : asciiLower f = f := by
    refine (List.map_congr_left fun c hc => if_neg ?_).trans (List.map_id' f)
    have := isLowerHexDigit_iff.mp (h c hc)
    omega
  rw [normalizeFingerprint, h1, List.filter_eq_self]
  intro c hc
  have := isLowerHexDigit_iff.mp (h c hc)
  simp only [decide_eq_true_eq]
  omega

/-- `sign_root_metadata_dict_via_gpg` on a signable envelope, with the dependency present: the entry `sign_via_gpg` returns for the
canonical bytes of the payload is filed under the value `fetch_keyval_from_gpg` returns -/
theorem signRootMdDictViaGpg_obj {G : GpgBackend} {top entries : List (PStr × J)} {signed sg fpr : J} {q : PStr}
    (hs : isSignableJ (.obj top) = true) (h1 : dictIndex (ps! "signed") top = .ok signed) (h2 : dictIndex (ps! "signatures") top = .ok (.obj entries))
    (hv : signViaGpg G true (.bytes (ser signed)) fpr false = .ok sg) (hq : fetchKeyvalFromGpg G true fpr = .ok q) :
    signRootMdDictViaGpg G true (.obj top) fpr = .ok (.obj (dictSet top (ps! "signatures") (.obj (dictSet entries q sg)))) := by
  simp only [signRootMdDictViaGpg, checkSslib, if_true, okU_eq, ok_bind, hs, Bool.not_true, Bool.false_eq_true, if_false, h1, hv, hq, h2, pure_eq_ok]

/-- `sign_root_metadata_dict_via_gpg` called with a canonical fingerprint: what the backend returns (hashed headers `oh`, signature `sg`, raw public value `q`) is filed as the entry
`{other_headers, signature}` under `q` -/
theorem signRootMdDictViaGpg_ok {G : GpgBackend} {top entries : List (PStr × J)} {signed : J} {fpr oh sg q : PStr}
    (hp : EnvParts (.obj top) entries signed) (hf : checkGpgFingerprintJ (.str fpr) = .ok ()) (hnorm : normalizeFingerprint fpr = fpr)
    (hsig : G.createSignature (ser signed) fpr = .ok (oh, sg)) (hq : G.exportQ fpr = .ok q) :
    signRootMdDictViaGpg G true (.obj top) (.str fpr) =
      .ok (.obj (dictSet top (ps! "signatures") (.obj (dictSet entries q (.obj [(ps! "other_headers", .str oh), (ps! "signature", .str sg)]))))) := by
  obtain ⟨hsg, _, e, h1, h2⟩ := hp
  cases e
  refine signRootMdDictViaGpg_obj hsg (dictIndex_some h2) (dictIndex_some h1) ?_ ?_
  · simp only [signViaGpg, checkSslib, if_true, okU_eq, ok_bind, hf, checkBytesLike, strOf_str, hsig, Bool.false_eq_true, if_false, pure_eq_ok]
  · simp only [fetchKeyvalFromGpg, checkSslib, if_true, okU_eq, ok_bind, hnorm, hf, hq]

end CCT
