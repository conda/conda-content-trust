import CCT.Model.Reasons
/-!
A delegation rule applied to an envelope: `verify_signable` with keys and threshold read from well-formed metadata.  With it the two
verifiers become decision lists over declarative conditions, and these are the decision lists of `Model/Reasons.lean` read in order.
-/
namespace CCT
open Classical
open CCT.C15

/-- the rule `d` (a delegation: keys + threshold) is met by the signatures on `u` in the given mode -/
def RuleMet (C : CryptoFns) (gpg : Bool) (d u : J) : Prop :=
  ThresholdMet C gpg (keysOf d) (ser (signedOf u)) (entriesOf u) (thrOf d)

theorem rule_verdict (C : CryptoFns) (gpg : Bool) (d u : J) (hd : DelegationOK d) (hu : isSignableJ u = true) :
    verifySignableJ C u (jget (ps! "pubkeys") d) (jget (ps! "threshold") d) gpg =
      if RuleMet C gpg d u then .ok () else .error .signature := by
  obtain ⟨_, _, ⟨ks, e1, hall, _⟩, ⟨z, hz, h1⟩⟩ := delegationOK_reads hd
  rw [verifySignable_verdict, if_pos ⟨hu, ⟨ks, e1, hall⟩, z, hz, h1⟩, RuleMet, keysOf_eq_keyStrs, thrOf_eq_thrNat]

theorem rootRule_ok {m : J} (h : IsRootMd m) : DelegationOK (rootRule m) := by
  obtain ⟨hs, _, hr⟩ := h
  obtain ⟨d, hd⟩ := Option.isSome_iff_exists.mp hr
  rw [rootRule, hd]
  exact mem_delegations_ok hs hd

theorem isRootMd_signable {m : J} (h : IsRootMd m) : isSignableJ m = true := ((schema_iff m).mp h.1).1

theorem verifyDelegation_verdict (C : CryptoFns) (name : PStr) (u t : J) (gpg : Bool) :
    verifyDelegationJ C name u t gpg =
      if ¬ (Schema t ∧ isSignableJ u = true) then .error .arg
      else if TypeMismatch name u then .error .metadataVerification
      else match roleOf t name with
        | none => .error .unknownRole
        | some d => if RuleMet C gpg d u then .ok () else .error .signature := by
  rw [verifyDelegation_eq]
  by_cases h : Schema t ∧ isSignableJ u = true
  · rw [if_neg (not_or.mpr ⟨not_not_intro h.1, not_not_intro h.2⟩), if_neg (not_not_intro h)]
    cases hr : roleOf t name with
    | none => rfl
    | some d => simp only [rule_verdict C gpg d u (mem_delegations_ok h.1 hr) h.2]
  · rw [if_pos h, if_pos (not_and_iff_not_or_not.mp h)]

theorem verifyDelegation_outcomes (C : CryptoFns) (name : PStr) (u t : J) (gpg : Bool) :
    verifyDelegationJ C name u t gpg = .ok () ∨ ∃ e, verifyDelegationJ C name u t gpg = .error e ∧
      (e = .arg ∨ e = .metadataVerification ∨ e = .unknownRole ∨ e = .signature) := by
  rw [verifyDelegation_verdict]
  by_cases h1 : ¬ (Schema t ∧ isSignableJ u = true)
  · rw [if_pos h1]; exact .inr ⟨_, rfl, .inl rfl⟩
  rw [if_neg h1]
  by_cases h2 : TypeMismatch name u
  · rw [if_pos h2]; exact .inr ⟨_, rfl, .inr (.inl rfl)⟩
  rw [if_neg h2]
  cases roleOf t name with
  | none => exact .inr ⟨_, rfl, .inr (.inr (.inl rfl))⟩
  | some d =>
    by_cases hm : RuleMet C gpg d u
    · exact .inl (if_pos hm)
    · exact .inr ⟨_, if_neg hm, .inr (.inr (.inr rfl))⟩

theorem verifyRoot_verdict (C : CryptoFns) (t u : J) :
    verifyRootJ C t u =
      if ¬ (IsRootMd t ∧ IsRootMd u) then .error .arg
      else if versionOf t + 1 ≠ versionOf u then .error .metadataVerification
      else if RuleMet C true (rootRule t) u ∧ RuleMet C true (rootRule u) u then .ok () else .error .signature := by
  rw [verifyRoot_eq]
  by_cases h : IsRootMd t ∧ IsRootMd u
  · rw [if_neg (not_not_intro h), if_neg (not_not_intro h), rule_verdict C true _ u (rootRule_ok h.1) (isRootMd_signable h.2),
      rule_verdict C true _ u (rootRule_ok h.2) (isRootMd_signable h.2)]
    by_cases m1 : RuleMet C true (rootRule t) u <;> simp [m1]
  · rw [if_pos h, if_pos h]

theorem resOk_checker (m : J) : resOk (checkDelegatingMdJ m) = true ↔ Schema m := by
  rw [checkDelegatingMd_eq]; split <;> simp [resOk, *]

theorem rootMdB_iff (m : J) : rootMdB m = true ↔ IsRootMd m := by
  unfold rootMdB IsRootMd
  rw [Bool.and_eq_true, Bool.and_eq_true, resOk_checker, and_assoc]
  cases typeOf m <;> simp

theorem typeMismatchB_iff (name : PStr) (u : J) : typeMismatchB name u = true ↔ TypeMismatch name u := by
  simp [typeMismatchB, TypeMismatch, resOk_checker, schema_signedOnly]

theorem ruleOkB_iff (C : CryptoFns) (gpg : Bool) (d u : J) (hd : DelegationOK d) (hu : isSignableJ u = true) :
    ruleOkB C gpg d u = true ↔ RuleMet C gpg d u := by
  rw [ruleOkB, rule_verdict C gpg d u hd hu]; split <;> simp [resOk, *]

def firstOf : List PyErr → Res Unit
  | [] => .ok ()
  | e :: _ => .error e

theorem firstOf_eq_ok {l : List PyErr} : firstOf l = .ok () ↔ l = [] := by cases l <;> simp [firstOf]

theorem mem_of_firstOf {l : List PyErr} {e : PyErr} (h : firstOf l = .error e) : e ∈ l := by
  cases l with
  | nil => cases h
  | cons a r => cases h; exact List.mem_cons_self

theorem firstOf_ite_append (p : Prop) [Decidable p] (e : PyErr) (l : List PyErr) :
    firstOf ((if p then [e] else []) ++ l) = if p then .error e else firstOf l := by
  split <;> rfl

theorem verifyRootReasons_eq (C : CryptoFns) (t u : J) :
    verifyRootReasons C t u =
      if ¬ (IsRootMd t ∧ IsRootMd u) then [.arg]
      else (if versionOf t + 1 ≠ versionOf u then [.metadataVerification] else []) ++
        (if RuleMet C true (rootRule t) u ∧ RuleMet C true (rootRule u) u then [] else [.signature]) := by
  unfold verifyRootReasons
  by_cases h : IsRootMd t ∧ IsRootMd u
  · simp [(rootMdB_iff t).mpr h.1, (rootMdB_iff u).mpr h.2, ruleOkB_iff C true _ u (rootRule_ok h.1) (isRootMd_signable h.2),
      ruleOkB_iff C true _ u (rootRule_ok h.2) (isRootMd_signable h.2), h]
  · have : ¬ ((rootMdB t && rootMdB u) = true) := by rwa [Bool.and_eq_true, rootMdB_iff, rootMdB_iff]
    simp [this, h]

theorem verifyDelegationReasons_eq (C : CryptoFns) (name : PStr) (u t : J) (gpg : Bool) :
    verifyDelegationReasons C name u t gpg =
      if ¬ (Schema t ∧ isSignableJ u = true) then [.arg]
      else (if TypeMismatch name u then [.metadataVerification] else []) ++
        (match roleOf t name with
         | none => [.unknownRole]
         | some d => if RuleMet C gpg d u then [] else [.signature]) := by
  unfold verifyDelegationReasons
  by_cases h : Schema t ∧ isSignableJ u = true
  · simp only [(resOk_checker t).mpr h.1, h.2, typeMismatchB_iff, h, and_self, not_true_eq_false, if_false, Bool.not_true, Bool.false_eq_true,
      Bool.and_self]
    cases hr : roleOf t name with
    | none => rfl
    | some d => simp only [ruleOkB_iff C gpg d u (mem_delegations_ok h.1 hr) h.2]
  · have : ¬ ((resOk (checkDelegatingMdJ t) && isSignableJ u) = true) := by rwa [Bool.and_eq_true, resOk_checker]
    simp [this, h]

theorem verifyRoot_first_reason (C : CryptoFns) (t u : J) : verifyRootJ C t u = firstOf (verifyRootReasons C t u) := by
  rw [verifyRoot_verdict, verifyRootReasons_eq, apply_ite firstOf, firstOf_ite_append, apply_ite firstOf]; rfl

theorem verifyDelegation_first_reason (C : CryptoFns) (name : PStr) (u t : J) (gpg : Bool) :
    verifyDelegationJ C name u t gpg = firstOf (verifyDelegationReasons C name u t gpg) := by
  rw [verifyDelegation_verdict, verifyDelegationReasons_eq, apply_ite firstOf, firstOf_ite_append]
  cases roleOf t name
  · rfl
  · rw [apply_ite firstOf]; rfl

end CCT
