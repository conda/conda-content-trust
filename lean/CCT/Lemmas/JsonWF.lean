import CCT.Lemmas.JsonNum
import CCT.Lemmas.Dict
/-!
`J.WF`, the domain of the round trip: strings are `StrOK`, the keys of an object are distinct, integers are below CPython's conversion limit,
a float is `nan`, `inf`, `-inf` or a token the parser reads back as itself.  Then what the value parser needs at the two ends of a
serialized value: how it begins (`Starts`, `serRaw_starts`), and that a number token ends where the serializer ended it (`parseValue_num`).
-/
namespace CCT

def FltOK (t : Txt) : Prop :=
  t = [110, 97, 110] ∨ t = [105, 110, 102] ∨ t = [45, 105, 110, 102] ∨
  ((∀ c ∈ t, isNumChar c = true) ∧ parseNumTok t = some (.flt t))

mutual
def J.WF : J → Prop
  | .null => True | .bool _ => True
  | .int z => z.natAbs < 10 ^ maxStrDigits        -- CPython's int <-> str conversion limit: larger integers cannot be serialized or loaded
  | .flt t => FltOK t
  | .str s => StrOK s
  | .arr xs => WFs xs
  | .obj kvs => WFm kvs ∧ (kvs.map (·.1)).Nodup
def WFs : List J → Prop
  | [] => True
  | x :: xs => x.WF ∧ WFs xs
def WFm : List (PStr × J) → Prop
  | [] => True
  | (k, v) :: kvs => StrOK k ∧ v.WF ∧ WFm kvs
end

theorem WFs_iff : ∀ (l : List J), WFs l ↔ ∀ x ∈ l, x.WF :=
  forall_mem_iff_of_cons trivial fun _ _ => Iff.rfl

theorem WFm_iff (l : List (PStr × J)) : WFm l ↔ ∀ p ∈ l, StrOK p.1 ∧ p.2.WF :=
  forall_mem_iff_of_cons trivial (fun _ _ => and_assoc.symm) l

theorem wf_member {kvs : List (PStr × J)} (h : (J.obj kvs).WF) {k : PStr} {v : J} (hg : dictGet k kvs = some v) : v.WF :=
  ((WFm_iff kvs).mp h.1 _ (mem_of_dictGet hg)).2

theorem wfs_append_one (acc : List J) (v : J) (h : WFs acc) (hv : v.WF) : WFs (acc ++ [v]) :=
  (WFs_iff _).mpr (List.forall_mem_append.mpr ⟨(WFs_iff acc).mp h, fun _ hx => List.mem_singleton.mp hx ▸ hv⟩)

theorem wfm_dictSet {k : PStr} {v : J} (hk : StrOK k) (hv : v.WF) {d : List (PStr × J)} : WFm d → WFm (dictSet d k v) := by
  fun_induction dictSet d k v with
  | case1 => exact fun _ => ⟨hk, hv, trivial⟩  -- empty dictionary
  | case2 v' r => exact fun h => ⟨hk, hv, h.2.2⟩  -- first key is `k`
  | case3 k' v' r _ ih => exact fun h => ⟨h.1, h.2.1, ih h.2.2⟩  -- another first key

theorem wf_dictSet {d : List (PStr × J)} {k : PStr} {v : J} (hd : (J.obj d).WF) (hk : StrOK k) (hv : v.WF) : (J.obj (dictSet d k v)).WF :=
  ⟨wfm_dictSet hk hv hd.1, dictSet_nodup hd.2⟩

mutual
def J.size : J → Nat
  | .arr xs => 1 + sizes xs
  | .obj kvs => 1 + sizem kvs
  | _ => 1
def sizes : List J → Nat
  | [] => 0
  | x :: xs => x.size + 1 + sizes xs
def sizem : List (PStr × J) → Nat
  | [] => 0
  | (_, v) :: kvs => v.size + 1 + sizem kvs
end

theorem J.size_pos (v : J) : 1 ≤ v.size := by
  cases v <;> simp [J.size] <;> omega

/-- `[34, …, 73]` are the characters `parseValue` dispatches on before it tries a number -/
theorem numChar_facts {c : Nat} (h : isNumChar c = true) : (32 ≤ c ∧ c < 127) ∧ (isWs c = false ∧ c ≠ 93 ∧ c ≠ 125) ∧
    c ∉ [34, 91, 123, 110, 116, 102, 78, 73] := by
  simp only [isNumChar, isDigit, Bool.or_eq_true, Bool.and_eq_true, decide_eq_true_eq] at h
  rcases h with ((((h | rfl) | rfl) | rfl) | rfl) | rfl
  · simp only [isWs, Bool.or_eq_false_iff, decide_eq_false_iff_not, List.mem_cons, List.mem_nil_iff, or_false]
    omega
  all_goals decide

theorem parseValue_other {c : Nat} (hc : c ∉ [34, 91, 123, 110, 116, 102, 78, 73]) (f : Nat) (r : Txt) :
    parseValue (f+1) (c :: r) =
      if c = 45 ∧ r.head? = some 73 then (stripPre litInf r.tail).map fun r' => (.flt [45, 105, 110, 102], r')
      else parseNumber (c :: r) := by
  simp only [List.mem_cons, List.mem_nil_iff, or_false, not_or] at hc
  simp only [parseValue, hc, if_false]

theorem parseValue_num (t : Txt) (v : J) (ht : ∀ c ∈ t, isNumChar c = true) (hp : parseNumTok t = some v)
    (rest : Txt) (hterm : Term rest) (f : Nat) : parseValue (f+1) (t ++ rest) = some (v, rest) := by
  cases t with
  | nil =>
    rw [parseNumTok_nil] at hp
    cases hp
  | cons c t' =>
    have h73 : ¬ (c = 45 ∧ (t' ++ rest).head? = some 73) := by
      rintro ⟨rfl, h⟩
      cases t' with
      | nil =>
        rw [parseNumTok_minus] at hp
        cases hp
      | cons d _ =>
        cases h
        exact absurd (ht 73 (by simp)) (by decide)
    rw [List.cons_append, parseValue_other (numChar_facts (ht c (by simp))).2.2, if_neg h73, parseNumber, ← List.cons_append,
      spanNum_append (c :: t') rest ht hterm]
    simp [hp]

/-- what the parsers need of the first character of a serialized value: `skipWs` stops at it, and it is not taken for the end of an array
or object -/
def Starts (s : Txt) : Prop := ∃ c r, s = c :: r ∧ isWs c = false ∧ c ≠ 93 ∧ c ≠ 125

theorem Starts.append {s : Txt} (h : Starts s) (r : Txt) : Starts (s ++ r) := by
  obtain ⟨c, t, rfl, hc⟩ := h
  exact ⟨c, t ++ r, rfl, hc⟩

theorem skipWs_starts {s : Txt} (h : Starts s) : skipWs s = s := by
  obtain ⟨c, t, rfl, hc, _⟩ := h
  exact skipWs_nonws hc

theorem starts_of_numtok {t : Txt} {v : J} (ht : ∀ c ∈ t, isNumChar c = true) (hp : parseNumTok t = some v) : Starts t := by
  cases t with
  | nil =>
    rw [parseNumTok_nil] at hp
    cases hp
  | cons c r => exact ⟨c, r, rfl, (numChar_facts (ht c (by simp))).2.1⟩

theorem serFlt_ord (t : Txt) (ht : ∀ c ∈ t, isNumChar c = true) : serFlt t = t := by
  -- the three tokens that are printed differently (`nan`, `inf`, `-inf`) all contain an `n`
  have ne : ∀ l : Txt, 110 ∈ l → t ≠ l := fun l hl e => absurd (ht 110 (e ▸ hl)) (by decide)
  rw [serFlt, if_neg (ne _ (by decide)), if_neg (ne _ (by decide)), if_neg (ne _ (by decide))]

theorem serRaw_starts (lvl : Nat) (v : J) (hv : v.WF) : Starts (serRaw lvl v) := by
  have lit : ∀ c r, isWs c = false ∧ c ≠ 93 ∧ c ≠ 125 → Starts (c :: r) := fun c r h => ⟨c, r, rfl, h⟩
  fun_cases serRaw lvl v with
  | case4 z =>  -- integer
    obtain ⟨h1, h2⟩ := parseNumTok_serInt z hv
    exact starts_of_numtok h2 h1
  | case5 t =>  -- float
    rcases hv with rfl | rfl | rfl | ⟨h1, h2⟩
    · exact lit _ _ (by decide)
    · exact lit _ _ (by decide)
    · exact lit _ _ (by decide)
    · rw [serFlt_ord t h1]
      exact starts_of_numtok h1 h2
  | _ => exact lit _ _ (by decide)

end CCT
