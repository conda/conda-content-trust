import CCT.Lemmas.VerifySignable
/-! Closed forms of the structured validators (delegation, delegations, signature entries), and `checkformat_delegating_metadata` = the documented schema. -/
namespace CCT
open Classical
open CCT.C15

/-- an `int` (bool included) that is ≥ 1 -/
def NaturalInt (v : J) : Prop := ∃ z, asInt v = some z ∧ 1 ≤ z

theorem NaturalInt.cases {v : J} (h : NaturalInt v) : (∃ z : Int, v = .int z ∧ 1 ≤ z) ∨ v = .bool true := by
  obtain ⟨z, hz, h1⟩ := h
  revert hz
  fun_cases asInt v with
  | case1 z' => exact fun hz => .inl ⟨z', rfl, Option.some.inj hz ▸ h1⟩  -- an `int`
  | case2 => exact fun _ => .inr rfl  -- `True`
  | case3 => exact fun hz => absurd (Option.some.inj hz ▸ h1) (by decide)  -- `False` is 0
  | case4 => nofun

theorem checkNaturalInt_eq (v : J) : checkNaturalIntJ v = if NaturalInt v then .ok () else .error .arg := by
  unfold checkNaturalIntJ NaturalInt
  cases asInt v with
  | none => simp
  | some z => by_cases hz : z < 1 <;> simp [hz] <;> omega

/-- a well-formed UTC timestamp string, as `datetime.strptime(s, "%Y-%m-%dT%H:%M:%SZ")` accepts them -/
def WfUtc (v : J) : Prop := ∃ s, v = .str s ∧ (pyStrptimeUtc s).isSome = true

theorem checkUtc_eq (v : J) : checkUtcJ v = if WfUtc v then .ok () else .error .arg := by
  cases v with
  | str s => simp only [checkUtcJ, okU_eq, WfUtc, J.str.injEq, exists_eq_left']
  | _ => exact (if_neg (by rintro ⟨_, ⟨⟩, _⟩)).symm

theorem checkString_eq (v : J) : checkStringJ v = if (∃ s, v = .str s) then .ok () else .error .arg := by
  cases v with
  | str s => exact (if_pos ⟨s, rfl⟩).symm
  | _ => exact (if_neg (by rintro ⟨_, ⟨⟩⟩)).symm

def KeyListOK (v : J) : Prop := ∃ ks, v = .arr ks ∧ (∀ k ∈ ks, HexN 64 k) ∧ (ks.map strOf).Nodup

theorem checkListOfHexKeys_eq (v : J) : checkListOfHexKeysJ v = if KeyListOK v then .ok () else .error .arg := by
  cases v with
  | arr ks => simp only [checkListOfHexKeys_arr, KeyListOK, J.arr.injEq, exists_eq_left']
  | _ => exact (if_neg (by rintro ⟨_, ⟨⟩, _⟩)).symm

/-- `{"pubkeys": [distinct well-formed keys], "threshold": int ≥ 1}` and nothing else -/
def DelegationOK (d : J) : Prop :=
  ∃ kvs, d = .obj kvs ∧ keysetEq kvs [ps! "threshold", ps! "pubkeys"] = true ∧
    (∃ pk, dictGet (ps! "pubkeys") kvs = some pk ∧ KeyListOK pk) ∧
    (∃ t, dictGet (ps! "threshold") kvs = some t ∧ NaturalInt t)

theorem pyGeOne_natural {t : J} (h : NaturalInt t) : pyGeOne t = some true := by
  rcases h.cases with ⟨z, rfl, h1⟩ | rfl
  · exact congrArg some (decide_eq_true h1)
  · rfl

theorem checkDelegation_eq (d : J) : checkDelegationJ d = if DelegationOK d then .ok () else .error .arg := by
  cases d with
  | obj kvs =>
    by_cases hks : keysetEq kvs [ps! "threshold", ps! "pubkeys"] = true
    · obtain ⟨t, ht⟩ := dictGet_of_keysetEq hks (k := ps! "threshold") (by decide)
      obtain ⟨pk, hpk⟩ := dictGet_of_keysetEq hks (k := ps! "pubkeys") (by decide)
      have spec : DelegationOK (.obj kvs) ↔ KeyListOK pk ∧ NaturalInt t := by
        simp only [DelegationOK, J.obj.injEq, exists_eq_left', hks, ht, hpk, Option.some.injEq, true_and]
      -- the guard in front is a weaker pre-test of the same two fields: it passes what the validators accept; otherwise `.error .arg` whether it passes or not
      simp only [checkDelegationJ, hks, dictIndex_some ht, dictIndex_some hpk, checkListOfHexKeys_eq, checkNaturalInt_eq, ok_bind, pure_eq_ok,
        ite_bind, ite_ite_and, ite_not_bool, Bool.not_true, Bool.false_eq_true, if_false, ite_cond_congr (propext spec)]
      by_cases hok : KeyListOK pk ∧ NaturalInt t
      · obtain ⟨⟨ks, rfl, hall, _⟩, hnat⟩ := id hok
        simp only [pyGeOne_natural hnat, allHexKeys_eq, decide_eq_true hall, ok_bind, true_and]
      · rw [if_neg hok]
        cases pyGeOne t with
        | none => rfl
        | some b =>
          cases b with
          | false => rfl
          | true =>
            cases pk with
            | arr ks => simp only [allHexKeys_eq, ok_bind]; exact if_neg fun h => hok h.2
            | _ => rfl
    · have : ¬ DelegationOK (.obj kvs) := fun ⟨_, e, h, _⟩ => by cases e; exact hks h
      simp [checkDelegationJ, hks, this]
  | _ => exact (if_neg (by rintro ⟨_, ⟨⟩, _⟩)).symm

def DelegationsOK (ds : J) : Prop := ∃ kvs, ds = .obj kvs ∧ ∀ p ∈ kvs, DelegationOK p.2

theorem checkDelegationsLoop_eq (kvs : List (PStr × J)) :
    checkDelegationsLoop kvs = if (∀ p ∈ kvs, DelegationOK p.2) then .ok () else .error .arg :=
  loop_eq (f := fun p => checkDelegationJ p.2) (P := fun p => DelegationOK p.2) rfl (fun ⟨_, _⟩ _ => rfl)
    (fun p => checkDelegation_eq p.2) kvs

theorem checkDelegations_eq (ds : J) : checkDelegationsJ ds = if DelegationsOK ds then .ok () else .error .arg := by
  cases ds with
  | obj kvs => simp only [checkDelegationsJ, checkDelegationsLoop_eq, DelegationsOK, J.obj.injEq, exists_eq_left']
  | _ => exact (if_neg (by rintro ⟨_, ⟨⟩, _⟩)).symm

def AnySigOK (v : J) : Prop := RawShape v ∨ GpgShape v

theorem checkAnySignature_eq (v : J) : checkAnySignatureJ v = if AnySigOK v then .ok () else .error .arg := by
  simp only [checkAnySignatureJ, isSignature_eq, isGpgSignature_eq, ok_bind]
  by_cases h1 : RawShape v <;> by_cases h2 : GpgShape v <;> simp [h1, h2, AnySigOK]

theorem checkSigValuesLoop_eq (kvs : List (PStr × J)) :
    checkSigValuesLoop kvs = if (∀ p ∈ kvs, AnySigOK p.2) then .ok () else .error .arg :=
  loop_eq (f := fun p => checkAnySignatureJ p.2) (P := fun p => AnySigOK p.2) rfl (fun ⟨_, _⟩ _ => rfl)
    (fun p => checkAnySignature_eq p.2) kvs

/-- the signed portion of delegating metadata, as documented -/
def SignedOK (s : J) : Prop :=
  ∃ kvs, s = .obj kvs ∧
    (∃ ty, dictGet (ps! "type") kvs = some (.str ty) ∧ ty ∈ supportedDelegatingTypes) ∧
    (∃ sv, dictGet (ps! "metadata_spec_version") kvs = some (.str sv)) ∧
    (∃ d, dictGet (ps! "delegations") kvs = some d ∧ DelegationsOK d) ∧
    (∃ e, dictGet (ps! "expiration") kvs = some e ∧ WfUtc e) ∧
    (dictHas (ps! "timestamp") kvs = true ∨ dictHas (ps! "version") kvs = true) ∧
    (dictGet (ps! "type") kvs = some (.str (ps! "root")) → dictHas (ps! "version") kvs = true) ∧
    (∀ t, dictGet (ps! "timestamp") kvs = some t → WfUtc t) ∧
    (∀ v, dictGet (ps! "version") kvs = some v → NaturalInt v)

theorem SignedOK.required {kvs : List (PStr × J)} (h : SignedOK (.obj kvs)) :
    ∀ f ∈ [ps! "type", ps! "metadata_spec_version", ps! "delegations", ps! "expiration"], dictHas f kvs = true := by
  obtain ⟨_, ⟨⟩, ⟨_, hty, _⟩, ⟨_, hsv⟩, ⟨_, hdl, _⟩, ⟨_, hex, _⟩, _⟩ := h
  simp only [List.forall_mem_cons, dictHas_some hty, dictHas_some hsv, dictHas_some hdl, dictHas_some hex, true_and]
  nofun

/-- the field checks of `checkformat_delegating_metadata` (lines 786-832) on the signed portion -/
def checkSignedPart (contents : J) : Res Unit := do
  requiredFieldsLoop contents [ps! "type", ps! "metadata_spec_version", ps! "delegations", ps! "expiration"]
  let ty ← pyIndexStr (ps! "type") contents
  checkStringJ ty
  match ty with
  | .str tys => if !supportedDelegatingTypes.contains tys then .error .arg else okU
  | _ => .error .arg
  checkStringJ (← pyIndexStr (ps! "metadata_spec_version") contents)
  checkDelegationsJ (← pyIndexStr (ps! "delegations") contents)
  checkUtcJ (← pyIndexStr (ps! "expiration") contents)
  let hasTs ← pyInStr (ps! "timestamp") contents
  let hasVer ← pyInStr (ps! "version") contents
  if !hasTs && !hasVer then .error .arg
  else if isRootType ty && !hasVer then .error .arg
  else do
    if hasTs then checkUtcJ (← pyIndexStr (ps! "timestamp") contents) else okU
    if hasVer then checkNaturalIntJ (← pyIndexStr (ps! "version") contents) else okU

theorem checkDelegatingMd_split (m : J) (entries : List (PStr × J)) (signed : J) (hp : EnvParts m entries signed) :
    checkDelegatingMdJ m = (do checkSigValuesLoop entries; checkSignedPart signed) := by
  obtain ⟨hs, top, rfl, hsig, hsgn⟩ := hp
  rw [checkDelegatingMdJ, checkSignableJ, if_pos hs]
  dsimp only
  rw [dictIndex_some hsig, dictIndex_some hsgn]
  rfl

/-- `f in contents` can fail, but then with a `TypeError` -/
theorem requiredFields_eq (c : J) (fs : List PStr) :
    requiredFieldsLoop c fs = if ∀ f ∈ fs, pyInStr f c = .ok true then .ok () else .error .arg :=
  loop_eq (f := fun f => if pyInStr f c = .ok true then .ok () else .error .arg) rfl
    (fun f r => by
      rw [requiredFieldsLoop]
      rcases pyInStr_total f c with ⟨b, e⟩ | e <;> rw [e]
      · cases b <;> rfl
      · rfl)
    (fun _ => rfl) fs

/-- a `signed` that is not a dict passes the `in` tests at best (a `str` or a list can hold the names), and then fails the
subscript `contents["type"]` (TypeError) -/
theorem checkSignedPart_nonobj (c : J) (h : ∀ kvs, c ≠ .obj kvs) : checkSignedPart c = .error .arg := by
  unfold checkSignedPart
  rw [requiredFields_eq, ite_bind, pyIndexStr_nonobj h]
  exact ite_self _

theorem isRootType_str (s : PStr) : isRootType (.str s) = decide (s = ps! "root") := rfl

theorem isRootType_iff (v : J) : isRootType v = true ↔ v = .str (ps! "root") := by
  cases v <;> simp [isRootType]

theorem checkSignedPart_obj (kvs : List (PStr × J)) :
    checkSignedPart (.obj kvs) = if SignedOK (.obj kvs) then .ok () else .error .arg := by
  unfold checkSignedPart
  rw [requiredFields_eq, ite_bind]
  refine first_test (fun hreq => ?_) (fun hreq h => hreq fun f hf => congrArg Except.ok (h.required f hf))
  -- the four required fields are there, so the subscripts succeed; then every statement of the code is one clause of `SignedOK`
  simp only [List.forall_mem_cons, pyInStr_obj, Except.ok.injEq, dictHas_iff] at hreq
  obtain ⟨⟨ty, hty⟩, ⟨sv, hsv⟩, ⟨dl, hdl⟩, ⟨ex, hex⟩, -⟩ := hreq
  simp only [pyIndexStr_obj, pyInStr_obj, dictIndex_some hty, dictIndex_some hsv, dictIndex_some hdl, dictIndex_some hex, ok_bind]
  by_cases hstr : ∃ tys, ty = .str tys
  · obtain ⟨tys, rfl⟩ := hstr
    -- in three passes, because the order matters: the two optional fields are folded while `checkUtcJ` / `checkNaturalIntJ` still stand in
    -- them, and `!a && !b` is read before `ite_not_bool` takes its `!`
    simp only [okU_eq, ok_bind, optField_eq _ _ checkNaturalInt_eq, optField_bind _ _ checkUtc_eq]
    simp only [not_and_not_eq_true]
    simp only [checkString_eq, J.str.injEq, exists_eq', checkDelegations_eq, checkUtc_eq, ite_bind, ok_bind, error_bind, if_true,
      ite_not_bool, List.contains_iff_mem, isRootType_str, and_not_eq_true, decide_eq_true_eq, ite_not, ite_ite_and]
    exact ite_cond_congr (propext (by simp only [SignedOK, J.obj.injEq, exists_eq_left', hty, hsv, hdl, hex, Option.some.injEq, J.str.injEq]))
  · rw [checkString_eq, if_neg hstr]
    exact (if_neg (by rintro ⟨_, ⟨⟩, ⟨tys, h, _⟩, _⟩; exact hstr ⟨tys, Option.some.inj (hty.symm.trans h)⟩)).symm

theorem checkSignedPart_eq (s : J) : checkSignedPart s = if SignedOK s then .ok () else .error .arg := by
  cases s with
  | obj kvs => exact checkSignedPart_obj kvs
  | _ => exact (checkSignedPart_nonobj _ (by intro _ e; cases e)).trans (if_neg (by rintro ⟨_, ⟨⟩, _⟩)).symm

/-- **the documented schema of delegating metadata** -/
def Schema (m : J) : Prop :=
  ∃ entries signed, EnvParts m entries signed ∧ (∀ p ∈ entries, AnySigOK p.2) ∧ SignedOK signed

theorem schema_iff (m : J) : Schema m ↔ isSignableJ m = true ∧ (∀ p ∈ entriesOf m, AnySigOK p.2) ∧ SignedOK (signedOf m) := by
  constructor
  · rintro ⟨e, s, hp, h1, h2⟩
    obtain ⟨rfl, rfl⟩ := envParts_accessors hp
    exact ⟨hp.signable, h1, h2⟩
  · rintro ⟨h, h1, h2⟩
    exact ⟨_, _, envParts_self h, h1, h2⟩

theorem schema_iff_parts {m : J} {entries : List (PStr × J)} {signed : J} (hp : EnvParts m entries signed) :
    Schema m ↔ (∀ p ∈ entries, AnySigOK p.2) ∧ SignedOK signed := by
  obtain ⟨rfl, rfl⟩ := envParts_accessors hp
  exact (schema_iff m).trans (and_iff_right hp.signable)

theorem checkDelegatingMd_eq (m : J) : checkDelegatingMdJ m = if Schema m then .ok () else .error .arg := by
  by_cases hs : isSignableJ m = true
  · have hp := envParts_self hs
    rw [checkDelegatingMd_split m _ _ hp, checkSigValuesLoop_eq, checkSignedPart_eq, ite_bind, ite_ite_and]
    exact ite_cond_congr (propext (schema_iff_parts hp).symm)
  · have : ¬ Schema m := fun ⟨_, _, hp, _⟩ => hs hp.signable
    unfold checkDelegatingMdJ
    rw [checkSignableJ, if_neg hs, if_neg this]; rfl

end CCT
