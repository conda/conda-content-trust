import CCT.Lemmas.VerifyDelegation
/-! Closed form of `verify_root`. -/
namespace CCT
open Classical
open CCT.C15

/-- well-formed root-type metadata that declares a rule for the root role -/
def IsRootMd (m : J) : Prop := Schema m ∧ typeOf m = .str (ps! "root") ∧ (roleOf m (ps! "root")).isSome = true

def rootRule (m : J) : J := (roleOf m (ps! "root")).getD .null

theorem typeOfSigned_eq {m : J} (h : Schema m) : typeOfSigned m = .ok (typeOf m) := by
  obtain ⟨s, _, S⟩ := (schema_iff m).mp h
  rw [typeOfSigned, pyIndexStr_signed s, ok_bind]
  exact (signedOK_reads S).1

theorem verifyRoot_eq (C : CryptoFns) (t u : J) :
    verifyRootJ C t u =
      if ¬ (IsRootMd t ∧ IsRootMd u) then .error .arg
      else if versionOf t + 1 ≠ versionOf u then .error .metadataVerification
      else (do
        verifySignableJ C u (jget (ps! "pubkeys") (rootRule t)) (jget (ps! "threshold") (rootRule t)) true
        verifySignableJ C u (jget (ps! "pubkeys") (rootRule u)) (jget (ps! "threshold") (rootRule u)) true) := by
  -- the code reads the two documents in turn and can stop with an argument error between any two reads: the reads are rewritten in its order and
  -- each failing branch is closed where it leaves (by `rw`: one `simp` pass over this term is as slow to check as all the rewrites together)
  unfold verifyRootJ
  rw [checkDelegatingMd_eq]
  by_cases hT : Schema t
  case neg => rw [if_neg hT, if_pos (fun h => hT h.1.1)]; rfl
  rw [if_pos hT, ok_bind, checkDelegatingMd_eq]
  by_cases hU : Schema u
  case neg => rw [if_neg hU, if_pos (fun h => hU h.2.1)]; rfl
  rw [if_pos hU, ok_bind, typeOfSigned_eq hT, ok_bind, typeOfSigned_eq hU, ok_bind]
  by_cases rt : isRootType (typeOf t) = true
  case neg => rw [if_pos (fun h => rt ((isRootType_iff _).mpr h.1.2.1)), if_pos (by simp [rt])]
  by_cases ru : isRootType (typeOf u) = true
  case neg => rw [if_pos (fun h => ru ((isRootType_iff _).mpr h.2.2.1)), if_pos (by simp [ru])]
  obtain ⟨st, _, St⟩ := (schema_iff t).mp hT
  obtain ⟨su, _, Su⟩ := (schema_iff u).mp hU
  rw [if_neg (by simp [rt, ru]), pyIndexStr_signed st, ok_bind, roleLookup_eq hT]
  cases dt : roleOf t (ps! "root") with
  | none => rw [if_pos (fun h => by simp [IsRootMd, dt] at h)]
  | some d =>
    -- `ek`, `eth`: what the subscripts `["pubkeys"]`, `["threshold"]` of the rule return; `evt`, `evu` below: `["version"]` of the two documents
    obtain ⟨ek, eth, _⟩ := delegationOK_reads (mem_delegations_ok hT dt)
    dsimp only
    rw [eth, ok_bind, ek, ok_bind, pyIndexStr_signed su, ok_bind, roleLookup_eq hU]
    cases du : roleOf u (ps! "root") with
    | none => rw [if_pos (fun h => by simp [IsRootMd, du] at h)]
    | some d' =>
      obtain ⟨ek', eth', _⟩ := delegationOK_reads (mem_delegations_ok hU du)
      rw [isRootType_iff] at rt ru
      obtain ⟨evt, z, hz, _⟩ := (signedOK_reads St).2.2 rt
      obtain ⟨evu, z', hz', _⟩ := (signedOK_reads Su).2.2 ru
      rw [if_neg (not_not_intro ⟨⟨hT, rt, by simp [dt]⟩, ⟨hU, ru, by simp [du]⟩⟩)]
      simp only [ek', eth', evt, evu, ok_bind, hz, hz', versionOf, rootRule, dt, du, Option.getD_some]

end CCT
