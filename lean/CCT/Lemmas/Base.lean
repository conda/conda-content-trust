import CCT.Model.Common
/-!
Equations of the basic definitions of `Model/Json.lean`, `Model/Py.lean` and `Model/Common.lean` that every later file uses.
A validator is *in closed form* when it is written `if p then .ok () else .error .arg`: it accepts exactly `p`
and raises nothing but an argument error.
-/
namespace CCT

@[simp] theorem ok_bind {α β : Type} (a : α) (f : α → Res β) : (Except.ok a >>= f) = f a := rfl
@[simp] theorem error_bind {α β : Type} (e : PyErr) (f : α → Res β) : ((Except.error e : Res α) >>= f) = .error e := rfl
@[simp] theorem pure_eq_ok {α : Type} (a : α) : (pure a : Res α) = .ok a := rfl
@[simp] theorem okU_eq : okU = .ok () := rfl

theorem bind_eq_ok {α β : Type} {x : Res α} {f : α → Res β} {b : β} : (x >>= f) = .ok b ↔ ∃ a, x = .ok a ∧ f a = .ok b := by
  cases x <;> simp

theorem ite_error_eq_ok {α : Type} {p : Prop} [Decidable p] {e : PyErr} {r : Res α} {a : α} :
    (if p then .error e else r) = .ok a ↔ ¬ p ∧ r = .ok a := by
  split <;> simp [*]
theorem ite_else_error_eq_ok {α : Type} {p : Prop} [Decidable p] {e : PyErr} {r : Res α} {a : α} :
    (if p then r else .error e) = .ok a ↔ p ∧ r = .ok a := by
  split <;> simp [*]

/-- Python's `if not b: raise …` -/
theorem ite_not_bool {α : Sort _} (b : Bool) (x y : α) : (if (!b) = true then x else y) = if b = true then y else x := by
  cases b <;> rfl

/-- `if not a and not b: raise …`, `if a and not b: raise …` -/
theorem not_and_not_eq_true (a b : Bool) : ((!a && !b) = true) = ¬ (a = true ∨ b = true) := by cases a <;> cases b <;> simp
theorem and_not_eq_true (a b : Bool) : ((a && !b) = true) = ¬ (a = true → b = true) := by cases a <;> cases b <;> simp

theorem mem_ite_singleton_nil {α : Type} {p : Prop} [Decidable p] {a e : α} : e ∈ (if p then [a] else []) ↔ e = a ∧ p := by
  split <;> simp [*]
theorem mem_ite_nil_singleton {α : Type} {p : Prop} [Decidable p] {a e : α} : e ∈ (if p then [] else [a]) ↔ e = a ∧ ¬ p := by
  split <;> simp [*]

theorem mul_add_lt {a n d m : Nat} (ha : a < n) (hd : d < m) : a * m + d < n * m :=
  calc a * m + d < a * m + m := Nat.add_lt_add_left hd _
    _ = (a + 1) * m := (Nat.succ_mul a m).symm
    _ ≤ n * m := Nat.mul_le_mul_right m ha

/-- `b2`, `b3` stand for `b²`, `b³`, so that an instance shows its numerals -/
theorem digits4 {b b2 b3 n : Nat} (h2 : b2 = b * b) (h3 : b3 = b2 * b) (h : n < b3 * b) :
    ((n / b3 % b * b + n / b2 % b) * b + n / b % b) * b + n % b = n := by
  subst h2 h3
  rw [Nat.mod_eq_of_lt (Nat.div_lt_of_lt_mul h), ← Nat.div_div_eq_div_mul, ← Nat.div_div_eq_div_mul, Nat.div_add_mod', Nat.div_add_mod',
    Nat.div_add_mod']

theorem forall_mem_iff_of_cons {α : Type} {P : List α → Prop} {Q : α → Prop} (nil : P []) (cons : ∀ x r, P (x :: r) ↔ Q x ∧ P r)
    (l : List α) : P l ↔ ∀ x ∈ l, Q x := by
  induction l with
  | nil => exact iff_of_true nil fun _ h => nomatch h
  | cons x r ih => rw [cons, ih, List.forall_mem_cons]

theorem nodup_map_on {α β : Type} {f : α → β} {l : List α} (hinj : ∀ a ∈ l, ∀ b ∈ l, f a = f b → a = b) (h : l.Nodup) :
    (l.map f).Nodup :=
  List.pairwise_map.mpr (h.imp_of_mem fun ha hb hne e => hne (hinj _ ha _ hb e))

theorem inj_on_of_nodup_map {α β : Type} {f : α → β} {l : List α} (h : (l.map f).Nodup) : ∀ a ∈ l, ∀ b ∈ l, f a = f b → a = b :=
  -- pairwise `≠` gives the implication for a pair in list order and, read backwards, for the flipped pair; on the diagonal it is `rfl`
  have p := List.pairwise_map.mp h
  fun _ ha _ hb => List.Pairwise.forall_of_forall_of_flip (R := fun a b => f a = f b → a = b) (fun _ _ _ => rfl)
    (p.imp fun ne e => absurd e ne) (p.imp fun ne e => absurd e.symm ne) ha hb

theorem ok_iff {p : Prop} [Decidable p] {e : PyErr} : (if p then .ok () else .error e : Res Unit) = .ok () ↔ p := by
  by_cases h : p <;> simp [h]

theorem predOf_eq_true {r : Res Unit} : predOf r = .ok true ↔ r = .ok () := by
  fun_cases predOf r <;> simp

theorem predOf_ite (p : Prop) [Decidable p] : predOf (if p then .ok () else .error .arg) = .ok (decide p) := by
  by_cases h : p <;> simp [h, predOf]

theorem ite_bind {β : Type} (p : Prop) [Decidable p] (r : Unit → Res β) :
    ((if p then .ok () else .error .arg : Res Unit) >>= r) = if p then r () else .error .arg := by
  by_cases h : p <;> simp [h]

theorem first_test {c p : Prop} [Decidable c] [Decidable p] {x : Res Unit}
    (pos : c → x = if p then .ok () else .error .arg) (neg : ¬ c → ¬ p) :
    (if c then x else .error .arg) = if p then .ok () else .error .arg := by
  by_cases h : c
  · rw [if_pos h, pos h]
  · rw [if_neg h, if_neg (neg h)]

theorem ite_ite_and {α : Sort _} (p q : Prop) [Decidable p] [Decidable q] (a b : α) :
    (if p then (if q then a else b) else b) = if p ∧ q then a else b := by
  by_cases hp : p <;> simp [hp]

theorem ite_ite_or {α : Sort _} (p q : Prop) [Decidable p] [Decidable q] (a b : α) :
    (if p then a else if q then a else b) = if p ∨ q then a else b := by
  by_cases hp : p <;> simp [hp]

theorem loop_eq {α : Type} {loop : List α → Res Unit} {f : α → Res Unit} {P : α → Prop} [DecidablePred P]
    (nil : loop [] = .ok ()) (cons : ∀ x r, loop (x :: r) = (f x >>= fun _ => loop r))
    (hf : ∀ x, f x = if P x then .ok () else .error .arg) (l : List α) :
    ∀ [Decidable (∀ x ∈ l, P x)], loop l = if ∀ x ∈ l, P x then .ok () else .error .arg := by
  induction l with
  | nil => intro _; simp [nil]
  | cons x r ih =>
    intro _
    rw [cons, hf, ite_bind, ih, ite_ite_and]
    exact ite_cond_congr (propext List.forall_mem_cons.symm)

theorem dictIndex_some {k : PStr} {kvs : List (PStr × J)} {v : J} (h : dictGet k kvs = some v) : dictIndex k kvs = .ok v := by
  simp [dictIndex, h]

theorem dictIndex_none {k : PStr} {kvs : List (PStr × J)} (h : dictGet k kvs = none) : dictIndex k kvs = .error .key := by
  simp [dictIndex, h]

theorem dictHas_some {k : PStr} {kvs : List (PStr × J)} {v : J} (h : dictGet k kvs = some v) : dictHas k kvs = true := by
  simp [dictHas, h]

theorem dictHas_none {k : PStr} {kvs : List (PStr × J)} (h : dictGet k kvs = none) : dictHas k kvs = false := by
  simp [dictHas, h]

theorem dictHas_iff {k : PStr} {kvs : List (PStr × J)} : dictHas k kvs = true ↔ ∃ v, dictGet k kvs = some v := by
  simp [dictHas, Option.isSome_iff_exists]

theorem dictHas_iff_mem {k : PStr} {kvs : List (PStr × J)} : dictHas k kvs = true ↔ k ∈ kvs.map (·.1) := by
  unfold dictHas
  fun_induction dictGet k kvs with
  | case1 => exact ⟨nofun, nofun⟩  -- empty dictionary
  | case2 v r => exact ⟨fun _ => List.mem_cons_self, fun _ => rfl⟩  -- first key is `k`
  | case3 k' v r e ih => exact ih.trans (List.mem_cons.trans (or_iff_right (Ne.symm e))).symm  -- another first key

theorem dictGet_of_keysetEq {kvs : List (PStr × J)} {names : List PStr} {k : PStr}
    (h : keysetEq kvs names = true) (hk : k ∈ names) : ∃ v, dictGet k kvs = some v := by
  simp only [keysetEq, Bool.and_eq_true, List.all_eq_true, List.contains_iff_mem] at h
  exact dictHas_iff.mp (dictHas_iff_mem.mpr (h.2 k hk))

theorem dictGet_of_keysAre {kvs : List (PStr × J)} {names : List PStr} {k : PStr}
    (h : keysAre kvs names = true) (hk : k ∈ names) : ∃ v, dictGet k kvs = some v :=
  dictGet_of_keysetEq (Bool.and_eq_true _ _ ▸ h).1 hk

theorem mem_of_dictGet {k : PStr} {v : J} {kvs : List (PStr × J)} (h : dictGet k kvs = some v) : (k, v) ∈ kvs := by
  revert h
  fun_induction dictGet k kvs with
  | case1 => nofun
  | case2 v' r => exact fun h => Option.some.inj h ▸ List.mem_cons_self
  | case3 k' v' r e ih => exact fun h => List.mem_cons_of_mem _ (ih h)

theorem dictGet_eq_some_iff (l : List (PStr × J)) (hn : (l.map (·.1)).Nodup) (k : PStr) (v : J) : dictGet k l = some v ↔ (k, v) ∈ l := by
  refine ⟨mem_of_dictGet, fun h => ?_⟩
  induction l with
  | nil => cases h
  | cons p r ih =>
    obtain ⟨k', v'⟩ := p
    rw [List.map_cons, List.nodup_cons] at hn
    rcases List.mem_cons.mp h with e | h
    · cases e; exact if_pos rfl
    · have : k' ≠ k := fun e => hn.1 (e ▸ List.mem_map_of_mem (f := (·.1)) h)
      exact (if_neg this).trans (ih hn.2 h)

theorem dictGet_perm {l l' : List (PStr × J)} (hp : l.Perm l') (hn : (l.map (·.1)).Nodup) (k : PStr) : dictGet k l' = dictGet k l := by
  have hn' : (l'.map (·.1)).Nodup := (hp.map _).nodup hn
  apply Option.ext
  intro v
  rw [dictGet_eq_some_iff l' hn', dictGet_eq_some_iff l hn, hp.mem_iff]

/-- `if k in d: check(d[k])` as the last statement, and (`optField_bind`) with statements `r` after it -/
theorem optField_eq (k : PStr) (kvs : List (PStr × J)) {f : J → Res Unit} {P : J → Prop} [DecidablePred P]
    [Decidable (∀ v, dictGet k kvs = some v → P v)] (hf : ∀ v, f v = if P v then .ok () else .error .arg) :
    (if dictHas k kvs = true then dictIndex k kvs >>= f else .ok ()) =
      if ∀ v, dictGet k kvs = some v → P v then .ok () else .error .arg := by
  rcases Option.eq_none_or_eq_some (dictGet k kvs) with h | ⟨x, h⟩
  · simp [dictHas_none h, h]
  · simp [dictHas_some h, dictIndex_some h, hf, h]

theorem optField_bind {β : Type} (k : PStr) (kvs : List (PStr × J)) {f : J → Res Unit} {P : J → Prop} [DecidablePred P]
    [Decidable (∀ v, dictGet k kvs = some v → P v)] (hf : ∀ v, f v = if P v then .ok () else .error .arg) (r : Res β) :
    (if dictHas k kvs = true then dictIndex k kvs >>= fun x => f x >>= fun _ => r else r) =
      if ∀ v, dictGet k kvs = some v → P v then r else .error .arg := by
  rcases Option.eq_none_or_eq_some (dictGet k kvs) with h | ⟨x, h⟩
  · simp [dictHas_none h, h]
  · simp [dictHas_some h, dictIndex_some h, hf, h, ite_bind]

/-- `k in d and test(d[k])` -/
theorem reqField_eq (k : PStr) (kvs : List (PStr × J)) {f : J → Res Bool} {P : J → Prop} [DecidablePred P]
    [Decidable (∃ v, dictGet k kvs = some v ∧ P v)] (hf : ∀ v, f v = .ok (decide (P v))) :
    (if dictHas k kvs = true then dictIndex k kvs >>= f else pure false) = .ok (decide (∃ v, dictGet k kvs = some v ∧ P v)) := by
  rcases Option.eq_none_or_eq_some (dictGet k kvs) with h | ⟨x, h⟩
  · simp [dictHas_none h, h]
  · simp [dictHas_some h, dictIndex_some h, hf, h]

theorem pyInStr_obj (k : PStr) (kvs : List (PStr × J)) : pyInStr k (.obj kvs) = .ok (dictHas k kvs) := rfl
theorem pyIndexStr_obj (k : PStr) (kvs : List (PStr × J)) : pyIndexStr k (.obj kvs) = dictIndex k kvs := rfl

theorem pyIndexStr_nonobj {k : PStr} {v : J} (h : ∀ kvs, v ≠ .obj kvs) : pyIndexStr k v = .error .arg := by
  cases v <;> first | rfl | exact absurd rfl (h _)

theorem pyInStr_total (k : PStr) (v : J) : (∃ b, pyInStr k v = .ok b) ∨ pyInStr k v = .error .arg := by
  cases v <;> first | exact .inl ⟨_, rfl⟩ | exact .inr rfl

@[simp] theorem strOf_str (s : PStr) : strOf (.str s) = s := rfl

theorem liftJ_ok {f : J → Res Unit} {v : PyVal} (h : liftJ f v = .ok ()) : ∃ x, v = .j x ∧ f x = .ok () := by
  cases v with
  | j x => exact ⟨x, rfl, h⟩
  | _ => cases h

theorem J.induct {P : J → Prop} (null : P .null) (bool : ∀ b, P (.bool b)) (int : ∀ z, P (.int z)) (flt : ∀ t, P (.flt t))
    (str : ∀ s, P (.str s)) (arr : ∀ xs, (∀ x ∈ xs, P x) → P (.arr xs)) (obj : ∀ kvs, (∀ p ∈ kvs, P p.2) → P (.obj kvs)) (v : J) : P v :=
  J.rec (motive_2 := fun xs => ∀ x ∈ xs, P x) (motive_3 := fun kvs => ∀ p ∈ kvs, P p.2) (motive_4 := fun p => P p.2)
    null bool int flt str arr obj (fun _ h => nomatch h) (fun _ _ hx hxs => List.forall_mem_cons.mpr ⟨hx, hxs⟩)
    (fun _ h => nomatch h) (fun _ _ hp hr => List.forall_mem_cons.mpr ⟨hp, hr⟩) (fun _ _ h => h) v

end CCT
