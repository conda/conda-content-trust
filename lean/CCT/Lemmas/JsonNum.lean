import CCT.Lemmas.JsonStr
/-!
Numbers.  `serInt z` is a valid integer token with value `z`, and its length is within CPython's limit `maxStrDigits` when `z` is below
`10 ^ maxStrDigits` in absolute value, so `parseNumTok` returns `z` (`parseNumTok_serInt`); in the other direction a digit string within that
length has a value below the limit (`digitsVal_lt_limit`, for parser soundness).  Floats are tokens and need nothing here.
-/
namespace CCT

/-- the parser takes the maximal run of number characters as the token (`spanNum`), so a number is read back only before a continuation
that does not begin with one -/
def Term (r : Txt) : Prop := ∀ c ∈ r.head?, isNumChar c = false

theorem term_nl (n : Nat) (r : Txt) : Term (nl n ++ r) := by
  intro c hc
  cases hc
  rfl

theorem term_cons {d : Nat} (h : isNumChar d = false) (r : Txt) : Term (d :: r) := by
  intro c hc
  cases hc
  exact h

theorem spanNum_append (tok rest : Txt) (h1 : ∀ c ∈ tok, isNumChar c = true) (h2 : Term rest) :
    spanNum (tok ++ rest) = (tok, rest) := by
  induction tok with
  | nil =>
    cases rest with
    | nil => rfl
    | cons c r => simp [spanNum, h2 c rfl]
  | cons c t ih => simp [spanNum, h1 c (by simp), ih (fun d hd => h1 d (by simp [hd]))]

theorem digitsVal_append (a b : Txt) (acc : Nat) : digitsVal (a ++ b) acc = digitsVal b (digitsVal a acc) := by
  fun_induction digitsVal a acc with
  | case1 => rfl  -- no characters
  | case2 c t acc ih => exact ih  -- first character goes into the accumulator

theorem isDigit_numChar {c : Nat} (h : isDigit c = true) : isNumChar c = true := by
  simp [isNumChar, h]

theorem validNatTok_digits {t : Txt} (h : validNatTok t = true) : ∀ c ∈ t, isDigit c = true := by
  simp only [validNatTok, Bool.and_eq_true, List.all_eq_true] at h
  exact h.1.1

theorem parseNumTok_nat {r : Txt} (hv : validNatTok r = true) :
    parseNumTok r = if r.length ≤ maxStrDigits then some (.int (digitsVal r 0)) else none := by
  unfold parseNumTok
  split
  · exact absurd (validNatTok_digits hv 45 (by simp)) (by decide)
  · simp [hv]

theorem parseNumTok_neg {r : Txt} (hv : validNatTok r = true) :
    parseNumTok (45 :: r) = if r.length ≤ maxStrDigits then some (.int (-(digitsVal r 0 : Int))) else none := by
  simp [parseNumTok, hv]

theorem parseNumTok_nil : parseNumTok [] = none := by decide
theorem parseNumTok_minus : parseNumTok [45] = none := by decide

theorem isDigit_iff {c : Nat} : isDigit c = true ↔ 48 ≤ c ∧ c ≤ 57 := by simp [isDigit]

theorem isDigit_add {k : Nat} (h : k < 10) : isDigit (48 + k) = true := isDigit_iff.mpr (by omega)

theorem natDigits_fuel {f n : Nat} (hn : n < f + 1) (h : ¬ n < 10) : 0 < n / 10 ∧ n / 10 < f :=
  have h10 : 10 ≤ n := Nat.le_of_not_lt h
  ⟨Nat.div_pos h10 (by decide),
    Nat.lt_of_lt_of_le (Nat.div_lt_self (Nat.lt_of_lt_of_le (by decide) h10) (by decide)) (Nat.le_of_lt_succ hn)⟩

theorem natDigits_spec (f n : Nat) (hn : n < f) : ∃ d t, natDigits f n = d :: t ∧ (d = 48 → n = 0 ∧ t = []) ∧
    (∀ c ∈ d :: t, isDigit c = true) ∧ digitsVal (d :: t) 0 = n := by
  fun_induction natDigits f n with
  | case1 => exact absurd hn (Nat.not_lt_zero _)  -- no fuel
  | case2 f n h =>  -- one digit
    exact ⟨48 + n, [], rfl, fun h => ⟨by omega, rfl⟩, by simpa using isDigit_add h, by simp [digitsVal]⟩
  | case3 f n h ih =>  -- digits of `n / 10`, then the last one
    have ⟨hpos, hlt⟩ := natDigits_fuel hn h
    obtain ⟨d, t, e, h0, hd, hv⟩ := ih hlt
    refine ⟨d, t ++ [48 + n % 10], by rw [e]; rfl, fun h => absurd (h0 h).1 (Nat.ne_of_gt hpos), ?_, ?_⟩
    · rw [← List.cons_append, List.forall_mem_append]
      exact ⟨hd, by simpa using isDigit_add (Nat.mod_lt n (by decide))⟩
    · rw [← List.cons_append, digitsVal_append, hv, digitsVal, digitsVal, Nat.add_sub_cancel_left, Nat.div_add_mod']

theorem serNat_spec (n : Nat) : validNatTok (serNat n) = true ∧ digitsVal (serNat n) 0 = n := by
  obtain ⟨d, t, e, h0, hd, hv⟩ := natDigits_spec (n + 1) n (by omega)
  rw [serNat, e]
  refine ⟨?_, hv⟩
  have : t = [] ∨ d ≠ 48 := if h : d = 48 then .inl (h0 h).2 else .inr h
  simpa [validNatTok, List.all_eq_true] using ⟨List.forall_mem_cons.mp hd, this⟩

theorem natDigits_length_le (f n k : Nat) (hf : n < f) (hn : n < 10 ^ k) (hk : 0 < k) : (natDigits f n).length ≤ k := by
  fun_induction natDigits f n generalizing k with
  | case1 => exact absurd hf (Nat.not_lt_zero _)
  | case2 => exact hk
  | case3 f n h ih =>
    obtain _ | k := k
    · cases hk
    have ⟨hpos, hlt⟩ := natDigits_fuel hf h
    have hq : n / 10 < 10 ^ k := Nat.div_lt_of_lt_mul (Nat.pow_succ' ▸ hn)
    have hk : 0 < k := Nat.pos_of_ne_zero fun e => by rw [e] at hq; omega
    rw [List.length_append]
    exact Nat.succ_le_succ (ih k hlt hq hk)

theorem digitsVal_lt (r : Txt) (acc : Nat) (h : ∀ c ∈ r, isDigit c = true) : digitsVal r acc < (acc + 1) * 10 ^ r.length := by
  fun_induction digitsVal r acc with
  | case1 acc => simp
  | case2 c t acc ih =>
    have hd := isDigit_iff.mp (h c (by simp))
    have hc : c - 48 < 10 := by omega
    rw [List.length_cons, Nat.pow_succ', ← Nat.mul_assoc]
    exact Nat.lt_of_lt_of_le (ih fun x hx => h x (by simp [hx])) (Nat.mul_le_mul_right _ (mul_add_lt (Nat.lt_succ_self acc) hc))

/-- stated with `k` so that no proof has to evaluate `10 ^ 4300` -/
theorem within_limit {n : Nat} (k : Nat) (hk : k ≤ maxStrDigits) (h : n < 10 ^ k) : n < 10 ^ maxStrDigits :=
  Nat.lt_of_lt_of_le h (Nat.pow_le_pow_right (by decide) hk)

theorem digitsVal_lt_limit (r : Txt) (hd : ∀ c ∈ r, isDigit c = true) (hl : r.length ≤ maxStrDigits) : digitsVal r 0 < 10 ^ maxStrDigits :=
  within_limit r.length hl (by simpa using digitsVal_lt r 0 hd)

theorem parseNumTok_serInt (z : Int) (hz : z.natAbs < 10 ^ maxStrDigits) :
    parseNumTok (serInt z) = some (.int z) ∧ (∀ c ∈ serInt z, isNumChar c = true) := by
  have len : ∀ n, n < 10 ^ maxStrDigits → (serNat n).length ≤ maxStrDigits := fun n h =>
    natDigits_length_le (n + 1) n maxStrDigits (by omega) h (by decide)
  cases z with
  | ofNat n =>
    obtain ⟨h1, h2⟩ := serNat_spec n
    exact ⟨by rw [serInt, parseNumTok_nat h1, if_pos (len n hz), h2]; rfl, fun c hc => isDigit_numChar (validNatTok_digits h1 c hc)⟩
  | negSucc n =>
    obtain ⟨h1, h2⟩ := serNat_spec (n + 1)
    refine ⟨by rw [serInt, cMinus, parseNumTok_neg h1, if_pos (len (n + 1) hz), h2]; rfl, fun c hc => ?_⟩
    rcases List.mem_cons.mp hc with rfl | hc
    · rfl
    · exact isDigit_numChar (validNatTok_digits h1 c hc)

end CCT
