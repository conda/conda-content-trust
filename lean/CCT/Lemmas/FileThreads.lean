import CCT.Model.FileThreads
/-! what `FS.put` leaves under each name; invariant of in-place file jobs on pairwise different names, under every schedule -/
namespace CCT

theorem FS.get_put_same (fs : FS) (n : PStr) (b : Bytes) : (fs.put n b) n = some b := if_pos rfl
theorem FS.get_put_other (fs : FS) (n m : PStr) (b : Bytes) (h : m ≠ n) : (fs.put n b) m = fs m := if_neg h

theorem stepJob_other (jb : FileJob) (fs : FS) (st : FLocal) (x : PStr) (hx : x ≠ jb.name) : (stepJob jb fs st).1 x = fs x := by
  fun_cases stepJob jb fs st with
  | case3 => exact FS.get_put_other _ _ _ _ hx  -- the write, to the job's own file
  | _ => rfl

/-- reachable states of jobs with pairwise different names started on `fs0`: a job's file is untouched until the job's own write, and afterwards holds the
job's result on the *original* content; files that are no job's are untouched -/
structure FInv (jobs : Nat → FileJob) (fs0 fs : FS) (ts : Nat → FLocal) : Prop where
  threads : ∀ i, ((ts i).pc = 0 ∧ fs (jobs i).name = fs0 (jobs i).name)
      ∨ ((ts i).pc = 1 ∧ (ts i).input = some (fs0 (jobs i).name) ∧ fs (jobs i).name = fs0 (jobs i).name)
      ∨ ((ts i).pc = 2 ∧ (ts i).output = some ((jobs i).run (fs0 (jobs i).name)) ∧ fs (jobs i).name = fs0 (jobs i).name)
      ∨ (3 ≤ (ts i).pc ∧ fs (jobs i).name = jobResult (jobs i) fs0)
  others : ∀ x, (∀ j, (jobs j).name ≠ x) → fs x = fs0 x

theorem FInv.init (jobs : Nat → FileJob) (fs0 : FS) (ts : Nat → FLocal) (h0 : ∀ i, (ts i).pc = 0) : FInv jobs fs0 fs0 ts :=
  ⟨fun i => Or.inl ⟨h0 i, rfl⟩, fun _ _ => rfl⟩

/-- The clause of a thread speaks of its own file only, and a step of another thread leaves that file alone (`stepJob_other`): so only the stepping
thread's clause is at stake. -/
theorem FInv.step (jobs : Nat → FileJob) (hd : ∀ i j, (jobs i).name = (jobs j).name → i = j) (fs0 fs : FS) (ts : Nat → FLocal)
    (h : FInv jobs fs0 fs ts) (i : Nat) :
    FInv jobs fs0 (stepJob (jobs i) fs (ts i)).1 (fun j => if j = i then (stepJob (jobs i) fs (ts i)).2 else ts j) := by
  refine ⟨fun m => ?_, fun x hx => (stepJob_other _ _ _ _ fun e => hx i e.symm).trans (h.others x hx)⟩
  by_cases hm : m = i
  · subst hm
    rcases h.threads m with ⟨hpc, hf⟩ | ⟨hpc, hin, hf⟩ | ⟨hpc, hout, hf⟩ | ⟨hpc, hres⟩
    · simp [stepJob, hpc, hf]                   -- pc 0: read
    · simp [stepJob, hpc, hin, hf]              -- pc 1: compute
    · cases hr : (jobs m).run (fs0 (jobs m).name) <;> simp [stepJob, hpc, hout, hr, jobResult, hf, FS.get_put_same]   -- pc 2: write
    · obtain ⟨n, hn⟩ := Nat.exists_eq_add_of_le' hpc      -- pc ≥ 3: finished
      simp [stepJob, hn, hres]
  · simp only [if_neg hm, stepJob_other _ _ _ _ fun e => hm (hd m i e)]
    exact h.threads m

theorem FInv.run (jobs : Nat → FileJob) (hd : ∀ i j, (jobs i).name = (jobs j).name → i = j) (fs0 : FS) (sched : List Nat) : ∀ (fs : FS) (ts : Nat → FLocal),
    FInv jobs fs0 fs ts → FInv jobs fs0 (runJobs jobs fs ts sched).1 (runJobs jobs fs ts sched).2 := by
  induction sched with
  | nil => exact fun _ _ h => h
  | cons i r ih =>
    intro fs ts h
    simp only [runJobs]
    exact ih _ _ (FInv.step jobs hd fs0 fs ts h i)

end CCT
