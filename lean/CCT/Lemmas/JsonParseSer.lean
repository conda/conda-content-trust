import CCT.Lemmas.JsonWF
/-!
The round trip `parse (serRaw 0 v) = some v` for well-formed `v` (`parse_serRaw`), by a mutual induction that follows the three parsers, at
any indentation level and before any continuation that does not extend a number.
-/
namespace CCT

theorem term_serElems (lvl : Nat) (xs : List J) (r : Txt) : Term (serElems lvl xs ++ r) := by
  cases xs with
  | nil =>
    simp only [serElems, List.append_assoc]
    exact term_nl _ _
  | cons x xs => exact term_cons (by decide) _

theorem term_serMembers (lvl : Nat) (kvs : List (PStr × J)) (r : Txt) : Term (serMembers lvl kvs ++ r) := by
  match kvs with
  | [] =>
    simp only [serMembers, List.append_assoc]
    exact term_nl _ _
  | (_, _) :: _ => exact term_cons (by decide) _

theorem stripPre_self (p r : Txt) : stripPre p (p ++ r) = some r := by
  induction p with
  | nil => rfl
  | cons a t ih => simp [stripPre, ih]

theorem starts_serStr (k : PStr) (r : Txt) : Starts (serStr k ++ r) := ⟨34, _, rfl, by decide⟩

theorem skipWs_serElems (lvl : Nat) (xs : List J) (rest : Txt) : skipWs (serElems lvl xs ++ rest) =
    match xs with
    | [] => 93 :: rest
    | y :: ys => 44 :: (nl (lvl+1) ++ (serRaw (lvl+1) y ++ (serElems lvl ys ++ rest))) := by
  cases xs <;> simp [serElems, skipWs, isWs, cRB, cComma]

theorem skipWs_serMembers (lvl : Nat) (kvs : List (PStr × J)) (rest : Txt) : skipWs (serMembers lvl kvs ++ rest) =
    match kvs with
    | [] => 125 :: rest
    | (k, v) :: kvs => 44 :: (nl (lvl+1) ++ (serStr k ++ (cColon :: cSp :: (serRaw (lvl+1) v ++ (serMembers lvl kvs ++ rest))))) := by
  match kvs with
  | [] => simp [serMembers, skipWs, isWs, cRC]
  | (_, _) :: _ => simp [serMembers, skipWs, isWs, cComma]

theorem parseValue_arr {f : Nat} {r : Txt} (h : Starts (skipWs r)) : parseValue (f+1) (91 :: r) = parseElems f (skipWs r) [] := by
  obtain ⟨c, t, e, _, hc, _⟩ := h
  rw [parseValue, if_neg (by decide), if_pos rfl, e]
  exact if_neg hc

theorem parseValue_obj {f : Nat} {r : Txt} (h : Starts (skipWs r)) : parseValue (f+1) (123 :: r) = parseMembers f (skipWs r) [] := by
  obtain ⟨c, t, e, _, _, hc⟩ := h
  rw [parseValue, if_neg (by decide), if_neg (by decide), if_pos rfl, e]
  exact if_neg hc

theorem parseElems_step {f : Nat} {s r r' : Txt} {acc : List J} {v : J} {d : Nat}
    (hv : parseValue f s = some (v, r)) (hd : skipWs r = d :: r') :
    parseElems (f+1) s acc =
      if d = 44 then parseElems f (skipWs r') (acc ++ [v]) else if d = 93 then some (.arr (acc ++ [v]), r') else none := by
  simp only [parseElems, hv, hd]

theorem parseMembers_step {f : Nat} {r r1 r2 r3 r4 : Txt} {acc : List (PStr × J)} {k : PStr} {v : J} {e : Nat}
    (hk : parseStr r = some (k, r1)) (h1 : skipWs r1 = 58 :: r2) (hv : parseValue f (skipWs r2) = some (v, r3)) (h3 : skipWs r3 = e :: r4) :
    parseMembers (f+1) (34 :: r) acc =
      if e = 44 then parseMembers f (skipWs r4) (dictSet acc k v) else if e = 125 then some (.obj (dictSet acc k v), r4) else none := by
  simp only [parseMembers, hk, h1, hv, h3, if_true]

/- `parseElems` is entered at an element, `serElems` begins at the comma before one: so `parseElems_ser` is about the element `x` being read
and the list `xs` still to come (`parseMembers_ser` likewise).  The recursion runs on `xs`, of which `x` is no part, so the round trip of `x`
(`hx`, `hv`) is supplied by the caller, for whom `x` is a part of the argument.
Fuel: `J.size` counts what the parsers spend — one for a value, one more for each element or member — and is at most the length of the text
(`size_le_len`), which is what `parse` supplies. -/
mutual
theorem parseValue_ser (v : J) (hv : v.WF) (lvl : Nat) (rest : Txt) (f : Nat)
    (hf : v.size ≤ f) (ht : Term rest) :
    parseValue f (serRaw lvl v ++ rest) = some (v, rest) := by
  match v, f with
  | v', 0 =>
    have := J.size_pos v'
    omega
  | .null, f+1 | .bool true, f+1 | .bool false, f+1 | .arr [], f+1 | .obj [], f+1 => rfl
  | .int z, f+1 =>
    obtain ⟨h1, h2⟩ := parseNumTok_serInt z hv
    exact parseValue_num _ _ h2 h1 rest ht f
  | .flt t, f+1 =>
    rcases hv with rfl | rfl | rfl | ⟨h1, h2⟩
    · rfl
    · rfl
    · rfl
    · rw [serRaw, serFlt_ord t h1]
      exact parseValue_num _ _ h1 h2 rest ht f
  | .str s, f+1 =>
    rw [serRaw, serStr, List.cons_append, List.append_assoc, parseValue, if_pos rfl]
    exact congrArg _ (parseStr_serStr s hv rest)
  | .arr (x :: xs), f+1 =>
    have st := (serRaw_starts (lvl+1) x hv.1).append (serElems lvl xs ++ rest)
    simp only [J.size, sizes] at hf
    rw [serRaw, List.cons_append, List.append_assoc, List.append_assoc, parseValue_arr (by rwa [skipWs_nl, skipWs_starts st]),
      skipWs_nl, skipWs_starts st]
    exact parseElems_ser xs hv.2 lvl x (fun rest f => parseValue_ser x hv.1 (lvl+1) rest f) [] f rest (by omega)
  | .obj ((k, v) :: kvs), f+1 =>
    have st := starts_serStr k (cColon :: cSp :: (serRaw (lvl+1) v ++ (serMembers lvl kvs ++ rest)))
    simp only [J.size, sizem] at hf
    rw [serRaw, List.cons_append, List.append_assoc, List.append_assoc]
    simp only [List.cons_append, List.append_assoc]
    rw [parseValue_obj (by rwa [skipWs_nl, skipWs_starts st]), skipWs_nl, skipWs_starts st]
    exact parseMembers_ser kvs hv.1.2.2 lvl k v hv.1.1 (serRaw_starts _ _ hv.1.2.1)
      (fun rest f => parseValue_ser v hv.1.2.1 (lvl+1) rest f) [] hv.2 f rest (by omega)
theorem parseElems_ser (xs : List J) (hxs : WFs xs) (lvl : Nat) (x : J)
    (hx : ∀ rest f, x.size ≤ f → Term rest → parseValue f (serRaw (lvl+1) x ++ rest) = some (x, rest))
    (acc : List J) (f : Nat) (rest : Txt) (hf : x.size + 1 + sizes xs ≤ f) :
    parseElems f (serRaw (lvl+1) x ++ (serElems lvl xs ++ rest)) acc = some (.arr (acc ++ x :: xs), rest) := by
  match xs, f with
  | _, 0 => omega
  | [], f+1 =>
    rw [parseElems_step (hx _ f (by omega) (term_serElems _ _ _)) (skipWs_serElems lvl [] rest)]
    rfl
  | y :: ys, f+1 =>
    simp only [sizes] at hf
    rw [parseElems_step (hx _ f (by omega) (term_serElems _ _ _)) (skipWs_serElems lvl (y :: ys) rest), if_pos rfl, skipWs_nl,
      skipWs_starts ((serRaw_starts _ y hxs.1).append _)]
    rw [parseElems_ser ys hxs.2 lvl y (fun rest f => parseValue_ser y hxs.1 (lvl+1) rest f) (acc ++ [x]) f rest (by omega),
      List.append_assoc]
    rfl
theorem parseMembers_ser (kvs : List (PStr × J)) (hm : WFm kvs) (lvl : Nat) (k : PStr) (v : J) (hk : StrOK k)
    (hst : Starts (serRaw (lvl+1) v))
    (hv : ∀ rest f, v.size ≤ f → Term rest → parseValue f (serRaw (lvl+1) v ++ rest) = some (v, rest))
    (acc : List (PStr × J)) (hnd : ((acc ++ (k, v) :: kvs).map (·.1)).Nodup)
    (f : Nat) (rest : Txt) (hf : v.size + 1 + sizem kvs ≤ f) :
    parseMembers f (serStr k ++ (cColon :: cSp :: (serRaw (lvl+1) v ++ (serMembers lvl kvs ++ rest)))) acc
      = some (.obj (acc ++ (k, v) :: kvs), rest) := by
  have hds : dictSet acc k v = acc ++ [(k, v)] := by
    refine dictSet_append acc k v fun hmem => ?_
    rw [List.map_append, List.map_cons] at hnd
    exact (List.nodup_append.mp hnd).2.2 k hmem k List.mem_cons_self rfl
  -- the member `"k": v`, up to the separator `e` that follows it
  have member : ∀ f tail e r4, v.size ≤ f → Term tail → skipWs tail = e :: r4 →
      parseMembers (f+1) (serStr k ++ (cColon :: cSp :: (serRaw (lvl+1) v ++ tail))) acc =
        if e = 44 then parseMembers f (skipWs r4) (acc ++ [(k, v)]) else if e = 125 then some (.obj (acc ++ [(k, v)]), r4) else none := by
    intro f tail e r4 hf ht he
    rw [← hds, serStr, List.cons_append, List.append_assoc]
    refine parseMembers_step (parseStr_serStr k hk _) (skipWs_nonws (by decide)) ?_ he
    rw [skipWs, if_pos (by decide), skipWs_starts (hst.append _)]
    exact hv _ f hf ht
  match kvs, f with
  | _, 0 => omega
  | [], f+1 =>
    rw [member f _ _ _ (by omega) (term_serMembers _ _ _) (skipWs_serMembers lvl [] rest)]
    rfl
  | (k2, v2) :: kvs', f+1 =>
    simp only [sizem] at hf
    rw [member f _ _ _ (by omega) (term_serMembers _ _ _) (skipWs_serMembers lvl ((k2, v2) :: kvs') rest), if_pos rfl, skipWs_nl,
      skipWs_starts (starts_serStr k2 _)]
    rw [parseMembers_ser kvs' hm.2.2 lvl k2 v2 hm.1 (serRaw_starts _ _ hm.2.1)
      (fun rest f => parseValue_ser v2 hm.2.1 (lvl+1) rest f) (acc ++ [(k, v)]) (by rwa [List.append_assoc]) f rest (by omega),
      List.append_assoc]
    rfl
end

theorem serRaw_pos (lvl : Nat) (v : J) (hv : v.WF) : 1 ≤ (serRaw lvl v).length := by
  obtain ⟨c, r, h, _⟩ := serRaw_starts lvl v hv
  simp [h]

mutual
theorem size_le_len (lvl : Nat) (v : J) (hv : v.WF) : v.size ≤ (serRaw lvl v).length := by
  match v with
  | .arr (x :: xs) =>
    have := size_le_len (lvl+1) x hv.1
    have := sizes_le_len lvl xs hv.2
    simp only [J.size, sizes, serRaw, nl, List.length_cons, List.length_append]
    omega
  | .obj ((k, v) :: kvs) =>
    have := size_le_len (lvl+1) v hv.1.2.1
    have := sizem_le_len lvl kvs hv.1.2.2
    simp only [J.size, sizem, serRaw, nl, List.length_cons, List.length_append]
    omega
  | .arr [] | .obj [] | .null | .bool _ | .int _ | .flt _ | .str _ => exact serRaw_pos lvl _ hv
theorem sizes_le_len (lvl : Nat) (xs : List J) (hxs : WFs xs) : sizes xs ≤ (serElems lvl xs).length := by
  match xs with
  | [] => simp [sizes]
  | y :: ys =>
    have := size_le_len (lvl+1) y hxs.1
    have := sizes_le_len lvl ys hxs.2
    simp only [sizes, serElems, List.length_cons, List.length_append]
    omega
theorem sizem_le_len (lvl : Nat) (kvs : List (PStr × J)) (hm : WFm kvs) : sizem kvs ≤ (serMembers lvl kvs).length := by
  match kvs with
  | [] => simp [sizem]
  | (k, v) :: kvs' =>
    have := size_le_len (lvl+1) v hm.2.1
    have := sizem_le_len lvl kvs' hm.2.2
    simp only [sizem, serMembers, List.length_cons, List.length_append]
    omega
end

theorem parse_serRaw (v : J) (hv : v.WF) : parse (serRaw 0 v) = some v := by
  have hp := parseValue_ser v hv 0 [] ((serRaw 0 v).length + 1) (by have := size_le_len 0 v hv; omega) (fun _ h => nomatch h)
  rw [List.append_nil] at hp
  simp [parse, skipWs_starts (serRaw_starts 0 v hv), hp, skipWs]

end CCT
