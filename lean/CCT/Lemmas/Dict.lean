import CCT.Lemmas.Base
/-! Dictionaries after an update: `d[k] = v`, `del d[k]`, and a loop of item assignments. -/
namespace CCT

theorem keys_dictSet (d : List (PStr × J)) (k : PStr) (v : J) :
    (dictSet d k v).map (·.1) = if k ∈ d.map (·.1) then d.map (·.1) else d.map (·.1) ++ [k] := by
  fun_induction dictSet d k v with
  | case1 => rfl  -- empty dictionary
  | case2 v' r => exact (if_pos List.mem_cons_self).symm  -- first key is `k`
  | case3 k' v' r e ih =>  -- another first key
    simp only [List.map_cons, ih, List.mem_cons, Ne.symm e, false_or]
    exact apply_ite (List.cons k') ..

theorem dictGet_dictSet (x k : PStr) (v : J) (d : List (PStr × J)) : dictGet x (dictSet d k v) = if x = k then some v else dictGet x d := by
  by_cases e : x = k
  · subst e
    rw [if_pos rfl]
    fun_induction dictSet d x v with
    | case1 => exact if_pos rfl
    | case2 => exact if_pos rfl
    | case3 k' v' r h ih => rwa [dictGet, if_neg h]
  · rw [if_neg e]
    fun_induction dictSet d k v with
    | case1 => exact if_neg (Ne.symm e)
    | case2 v' r => rw [dictGet, dictGet, if_neg (Ne.symm e), if_neg (Ne.symm e)]
    | case3 k' v' r h ih => rw [dictGet, dictGet, ih]

theorem dictGet_dictSet_same {k : PStr} {v : J} {d : List (PStr × J)} : dictGet k (dictSet d k v) = some v := by
  rw [dictGet_dictSet, if_pos rfl]

theorem dictGet_dictSet_other {k k2 : PStr} {v : J} {d : List (PStr × J)} (hne : k2 ≠ k) : dictGet k2 (dictSet d k v) = dictGet k2 d := by
  rw [dictGet_dictSet, if_neg hne]

theorem mem_keys_dictSet (k : PStr) (v : J) (d : List (PStr × J)) (x : PStr) :
    x ∈ (dictSet d k v).map (·.1) ↔ x = k ∨ x ∈ d.map (·.1) := by
  rw [keys_dictSet]
  split
  · exact ⟨Or.inr, fun h => h.elim (· ▸ ‹_›) id⟩
  · simp [or_comm]

theorem dictSet_nodup {k : PStr} {v : J} {d : List (PStr × J)} (h : (d.map (·.1)).Nodup) : ((dictSet d k v).map (·.1)).Nodup := by
  rw [keys_dictSet]
  split
  · exact h
  · rename_i hnot
    exact List.nodup_append.mpr ⟨h, by simp, by intro a ha b hb; simp at hb; subst hb; intro e; subst e; exact hnot ha⟩

theorem keysetEq_dictSet_existing {d : List (PStr × J)} {names : List PStr} {k : PStr} {v : J}
    (h : keysetEq d names = true) (hk : k ∈ names) : keysetEq (dictSet d k v) names = true := by
  simp only [keysetEq, Bool.and_eq_true, List.all_eq_true, dictKeys, List.contains_iff_mem] at h ⊢
  constructor
  · intro x hx
    rcases (mem_keys_dictSet k v d x).mp hx with rfl | hx
    · exact hk
    · exact h.1 x hx
  · intro n hn
    exact (mem_keys_dictSet k v d n).mpr (Or.inr (h.2 n hn))

theorem mem_dictSet_self {k : PStr} {v : J} {d : List (PStr × J)} : (k, v) ∈ dictSet d k v :=
  mem_of_dictGet dictGet_dictSet_same

theorem mem_dictSet_of_mem_ne {k : PStr} {v : J} {d : List (PStr × J)} {p : PStr × J} (h : p ∈ d) (hne : p.1 ≠ k) : p ∈ dictSet d k v := by
  fun_induction dictSet d k v with
  | case1 => cases h
  | case2 v' r => exact (List.mem_cons.mp h).elim (fun e => absurd (e ▸ rfl) hne) (List.mem_cons_of_mem _)
  | case3 k' v' r e ih => exact (List.mem_cons.mp h).elim (· ▸ List.mem_cons_self) fun h => List.mem_cons_of_mem _ (ih h)

theorem dictSet_overwrite (k : PStr) (v w : J) (d : List (PStr × J)) : dictSet (dictSet d k v) k w = dictSet d k w := by
  induction d with
  | nil => simp [dictSet]
  | cons p r ih =>
    obtain ⟨k', v'⟩ := p
    by_cases e : k' = k
    · simp [e, dictSet]
    · simp [e, dictSet, ih]

theorem dictSet_append (kvs : List (PStr × J)) (k : PStr) (v : J) (h : k ∉ kvs.map (·.1)) :
    dictSet kvs k v = kvs ++ [(k, v)] := by
  fun_induction dictSet kvs k v with
  | case1 => rfl
  | case2 v' r => exact absurd List.mem_cons_self h
  | case3 k' v' r e ih => exact congrArg _ (ih fun hm => h (List.mem_cons_of_mem _ hm))

theorem dictGet_dictDel_self (kvs : List (PStr × J)) (k : PStr) (h : (kvs.map (·.1)).Nodup) : dictGet k (dictDel k kvs) = none := by
  fun_induction dictDel k kvs with
  | case1 => rfl  -- empty dictionary
  | case2 v r =>  -- first key is `k`: `r` is left, and `k` is no key of it
    exact Option.not_isSome_iff_eq_none.mp fun hh => (List.nodup_cons.mp h).1 (dictHas_iff_mem.mp hh)
  | case3 k' v r e ih =>  -- another first key
    rw [dictGet, if_neg e]
    exact ih (List.nodup_cons.mp h).2

/-! The dictionary left by a loop of item assignments `d[key a] = val a` for `a` in `l`. -/
section fold

variable {α : Type} (key : α → PStr) (val : α → J)

theorem dictGet_foldl_dictSet_of_not_mem (x : PStr) (l : List α) : ∀ (d : List (PStr × J)), (∀ a ∈ l, key a ≠ x) →
    dictGet x (l.foldl (fun d a => dictSet d (key a) (val a)) d) = dictGet x d := by
  induction l with
  | nil => exact fun _ _ => rfl
  | cons a r ih =>
    intro d h
    rw [List.foldl_cons, ih _ fun b hb => h b (List.mem_cons_of_mem _ hb), dictGet_dictSet_other (h a List.mem_cons_self).symm]

theorem dictGet_foldl_dictSet_of_mem (l : List α) : ∀ (d : List (PStr × J)) (a : α), a ∈ l → (∀ b ∈ l, key b = key a → val b = val a) →
    dictGet (key a) (l.foldl (fun d a => dictSet d (key a) (val a)) d) = some (val a) := by
  induction l with
  | nil => exact fun _ _ ha => nomatch ha
  | cons b r ih =>
    intro d a ha hs
    rw [List.foldl_cons]
    -- a later `c` under the key of `a` writes last, and writes the value of `a`; if there is none, `a` is the head and the rest leaves its key alone
    by_cases hr : ∃ c ∈ r, key c = key a
    · obtain ⟨c, hc, hk⟩ := hr
      rw [← hk, ih _ c hc fun b hb e => (hs b (List.mem_cons_of_mem _ hb) (e.trans hk)).trans
        (hs c (List.mem_cons_of_mem _ hc) hk).symm, hs c (List.mem_cons_of_mem _ hc) hk]
    · have hab : a = b := (List.mem_cons.mp ha).resolve_right fun h => hr ⟨a, h, rfl⟩
      subst hab
      rw [dictGet_foldl_dictSet_of_not_mem key val _ r _ fun c hc e => hr ⟨c, hc, e⟩, dictGet_dictSet_same]

theorem dictGet_foldl_dictSet_of_nodup (l : List α) (d : List (PStr × J)) (hn : (l.map key).Nodup) (a : α) (ha : a ∈ l) :
    dictGet (key a) (l.foldl (fun d a => dictSet d (key a) (val a)) d) = some (val a) :=
  dictGet_foldl_dictSet_of_mem key val l d a ha fun b hb e => congrArg val (inj_on_of_nodup_map hn b hb a ha e)

theorem keys_foldl_dictSet (k : PStr) (l : List α) : ∀ (d : List (PStr × J)),
    k ∈ (l.foldl (fun d a => dictSet d (key a) (val a)) d).map (·.1) ↔ k ∈ d.map (·.1) ∨ k ∈ l.map key := by
  induction l with
  | nil => simp
  | cons a r ih =>
    intro d
    rw [List.foldl_cons, ih, mem_keys_dictSet, List.map_cons, List.mem_cons, or_comm (a := k = key a), or_assoc]

theorem nodup_foldl_dictSet (l : List α) : ∀ (d : List (PStr × J)), (d.map (·.1)).Nodup →
    ((l.foldl (fun d a => dictSet d (key a) (val a)) d).map (·.1)).Nodup := by
  induction l with
  | nil => exact fun _ h => h
  | cons _ r ih => exact fun _ h => ih _ (dictSet_nodup h)

end fold

end CCT
