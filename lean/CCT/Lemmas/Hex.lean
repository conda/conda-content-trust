import CCT.Lemmas.JsonWs
/-!
`checkformat_hex_string` makes three tests (`bytes.fromhex` succeeds, `isalnum()`, `lower()` changes nothing); together they decide the
grammar `LowerHex` (`hexString_tests_iff`).  On that grammar `unhex` and `hexOfBytes` are inverse to each other, so a byte string has one
spelling and distinct accepted strings are distinct bytes (`unhex_injective`).
-/
namespace CCT

/-- the exact grammar the hex validators decide -/
def LowerHex (s : PStr) : Prop := s ≠ [] ∧ s.length % 2 = 0 ∧ ∀ c ∈ s, isLowerHexDigit c = true

instance (s : PStr) : Decidable (LowerHex s) := by unfold LowerHex; infer_instance

-- the character classes as intervals: every fact about a single character below is `omega` after these
theorem isLowerHexDigit_iff {c : Nat} : isLowerHexDigit c = true ↔ 48 ≤ c ∧ c ≤ 57 ∨ 97 ≤ c ∧ c ≤ 102 := by
  simp [isLowerHexDigit]

theorem isAsciiSpace_iff {c : Nat} : isAsciiSpace c = true ↔ c = 32 ∨ 9 ≤ c ∧ c ≤ 13 := by
  simp [isAsciiSpace]

theorem lowerHex_digit {c : Nat} (h : isLowerHexDigit c = true) : ∃ v, v < 16 ∧ hexVal c = some v ∧ hexDigit v = c := by
  obtain ⟨v, hv, rfl⟩ : ∃ v, v < 16 ∧ hexDigit v = c := by
    rcases isLowerHexDigit_iff.mp h with ⟨h1, h2⟩ | ⟨h1, h2⟩
    · obtain ⟨v, rfl⟩ := Nat.exists_eq_add_of_le h1
      exact ⟨v, by omega, if_pos (by omega)⟩
    · obtain ⟨v, rfl⟩ := Nat.exists_eq_add_of_le (Nat.le_trans (by decide : 87 ≤ 97) h1)
      exact ⟨v, by omega, if_neg (by omega)⟩
  exact ⟨v, hv, hexVal_hexDigit v hv, rfl⟩

theorem hexDigit_lower (d : Nat) (h : d < 16) : isLowerHexDigit (hexDigit d) = true := by
  rw [isLowerHexDigit_iff]; unfold hexDigit; split <;> omega

theorem hexVal_hexDigit' (d : Nat) (h : d < 16) : hexVal (hexDigit d) = some d := hexVal_hexDigit d h

theorem even_induct {P : PStr → Prop} (nil : P []) (pair : ∀ c d r, r.length % 2 = 0 → P r → P (c :: d :: r)) :
    ∀ s, s.length % 2 = 0 → P s
  | [], _ => nil
  | [_], h => by cases h
  | c :: d :: r, h =>
    have hr : r.length % 2 = 0 := (Nat.add_mod_right r.length 2).symm.trans h
    pair c d r hr (even_induct nil pair r hr)

theorem nibbles {h l : Nat} (hh : h < 16) (hl : l < 16) : (h * 16 + l) / 16 % 16 = h ∧ (h * 16 + l) % 16 = l := by
  -- by rewriting: `omega` is slow on `/` and `%`
  rw [Nat.mul_comm, Nat.mul_add_div (by decide), Nat.mul_add_mod, Nat.div_eq_of_lt hl, Nat.add_zero, Nat.mod_eq_of_lt hh,
    Nat.mod_eq_of_lt hl]
  exact ⟨rfl, rfl⟩

theorem pyFromHex_lower : ∀ (s : PStr), s.length % 2 = 0 → (∀ c ∈ s, isLowerHexDigit c = true) →
    pyFromHex s = some (unhex s) := by
  refine even_induct (fun _ => rfl) fun c d r _ ih hall => ?_
  obtain ⟨hc, hdr⟩ := List.forall_mem_cons.mp hall
  obtain ⟨hd, hr⟩ := List.forall_mem_cons.mp hdr
  obtain ⟨vc, _, hvc, _⟩ := lowerHex_digit hc
  obtain ⟨vd, _, hvd, _⟩ := lowerHex_digit hd
  have hsp : isAsciiSpace c = false := by
    rw [isLowerHexDigit_iff] at hc; rw [← Bool.not_eq_true, isAsciiSpace_iff]; omega
  simp only [pyFromHex, hsp, hvc, hvd, ih hr, unhex, Bool.false_eq_true, if_false, Option.map_some, Option.getD_some]

theorem pyFromHex_chars (s : PStr) (h : (pyFromHex s).isSome = true) :
    (∀ c ∈ s, isAsciiSpace c = true ∨ (hexVal c).isSome = true) ∧ ((∀ c ∈ s, isAsciiSpace c = false) → s.length % 2 = 0) := by
  fun_induction pyFromHex s with
  | case1 => simp                      -- the empty string
  | case2 c hc => simp [hc]            -- one character, a space
  | case3 => simp at h                 -- one character, not a space: refused
  | case4 c d r hc ih =>               -- a space is skipped
    exact ⟨List.forall_mem_cons.mpr ⟨.inl hc, (ih h).1⟩, fun hn => by rw [hn c (.head _)] at hc; cases hc⟩
  | case5 c d r hc vc vd hd hvc ih =>  -- two hex digits (the principle lists the fact about `d` first)
    obtain ⟨ih1, ih2⟩ := ih (by simpa using h)
    refine ⟨List.forall_mem_cons.mpr ⟨.inr (by rw [hvc]; rfl), List.forall_mem_cons.mpr ⟨.inr (by rw [hd]; rfl), ih1⟩⟩, fun hn => ?_⟩
    exact (Nat.add_mod_right r.length 2).trans (ih2 fun x hx => hn x (.tail _ (.tail _ hx)))
  | case6 => simp at h                 -- anything else: refused

/-- why the model may use `asciiIsAlnum` / `asciiIsLower`: `isalnum()` and `lower()` run only after `bytes.fromhex` has succeeded, hence on ASCII -/
theorem pyFromHex_ascii : ∀ (s : PStr) (b : Bytes), pyFromHex s = some b → ∀ c ∈ s, c < 128 := by
  intro s b h c hc
  rcases (pyFromHex_chars s (by simp [h])).1 c hc with hs | hv
  · rw [isAsciiSpace_iff] at hs; omega
  · obtain ⟨v, hv⟩ := Option.isSome_iff_exists.mp hv
    have := hexVal_some hv; omega

theorem hexString_tests_iff (s : PStr) :
    ((pyFromHex s).isSome = true ∧ asciiIsAlnum s = true ∧ asciiIsLower s = true) ↔ LowerHex s := by
  simp only [asciiIsAlnum, asciiIsLower, LowerHex, Bool.and_eq_true, Bool.not_eq_true', List.isEmpty_eq_false_iff,
    List.all_eq_true, Bool.or_eq_true, decide_eq_true_eq, Bool.and_eq_false_iff, decide_eq_false_iff_not]
  constructor
  · rintro ⟨h1, ⟨hne, h2⟩, h3⟩
    -- alphanumerics are not whitespace, so the digits pair up; a hex digit that is not upper case is a lowercase one
    obtain ⟨hch, hev⟩ := pyFromHex_chars s h1
    have hsp : ∀ c ∈ s, isAsciiSpace c = false := fun c hc => by
      have := h2 c hc; rw [← Bool.not_eq_true, isAsciiSpace_iff]; omega
    refine ⟨hne, hev hsp, fun c hc => ?_⟩
    rcases hch c hc with hs | hv
    · rw [hsp c hc] at hs; cases hs
    · obtain ⟨v, hv⟩ := Option.isSome_iff_exists.mp hv
      rcases hexVal_some hv with ⟨a, b, _⟩ | ⟨a, b, _⟩ | ⟨a, b, _⟩
      · exact isLowerHexDigit_iff.mpr (.inl ⟨a, b⟩)
      · exact isLowerHexDigit_iff.mpr (.inr ⟨a, b⟩)
      · exact (h3 c hc).elim (absurd a) (absurd (Nat.le_trans b (by decide)))
  · rintro ⟨hne, hev, hall⟩
    refine ⟨by rw [pyFromHex_lower s hev hall]; rfl, ⟨hne, fun c hc => ?_⟩, fun c hc => ?_⟩ <;>
      (have := isLowerHexDigit_iff.mp (hall c hc); omega)

theorem checkHexStringJ_str (s : PStr) :
    checkHexStringJ (.str s) = if LowerHex s then .ok () else .error .arg := by
  have tests : checkHexStringJ (.str s) =
      if (pyFromHex s).isSome = true ∧ asciiIsAlnum s = true ∧ asciiIsLower s = true then .ok () else .error .arg := by
    rw [checkHexStringJ]
    cases pyFromHex s <;> cases asciiIsAlnum s <;> cases asciiIsLower s <;> rfl
  rw [tests]; exact ite_cond_congr (propext (hexString_tests_iff s))

theorem checkHexStringJ_nonstr (v : J) (h : ∀ s, v ≠ .str s) : checkHexStringJ v = .error .arg := by
  cases v <;> first | rfl | exact absurd rfl (h _)

theorem unhex_hexOfBytes (b : Bytes) (h : ∀ x ∈ b, x < 256) : unhex (hexOfBytes b) = b := by
  fun_induction hexOfBytes b with
  | case1 => rfl  -- no bytes
  | case2 x r ih =>  -- the two digits of `x`, then the rest
    have h16 : x / 16 < 16 := Nat.div_lt_of_lt_mul (h x (.head _))
    rw [unhex, ih fun y hy => h y (.tail _ hy), Nat.mod_eq_of_lt h16, hexVal_hexDigit _ h16, hexVal_hexDigit _ (Nat.mod_lt x (by decide : 0 < 16))]
    exact congrArg (· :: r) (Nat.div_add_mod' x 16)

theorem hexOfBytes_unhex : ∀ (s : PStr), s.length % 2 = 0 → (∀ c ∈ s, isLowerHexDigit c = true) → hexOfBytes (unhex s) = s := by
  refine even_induct (fun _ => rfl) fun c d r _ ih hall => ?_
  obtain ⟨hc, hdr⟩ := List.forall_mem_cons.mp hall
  obtain ⟨hd, hr⟩ := List.forall_mem_cons.mp hdr
  obtain ⟨vc, hc16, hvc, rfl⟩ := lowerHex_digit hc
  obtain ⟨vd, hd16, hvd, rfl⟩ := lowerHex_digit hd
  simp only [unhex, hvc, hvd, Option.getD_some, hexOfBytes, ih hr, nibbles hc16 hd16]

theorem unhex_injective (s t : PStr) (hs : LowerHex s) (ht : LowerHex t) (h : unhex s = unhex t) : s = t := by
  rw [← hexOfBytes_unhex s hs.2.1 hs.2.2, ← hexOfBytes_unhex t ht.2.1 ht.2.2, h]

theorem unhex_length : ∀ (s : PStr), s.length % 2 = 0 → (unhex s).length = s.length / 2 := by
  refine even_induct rfl fun c d r _ ih => ?_
  rw [unhex, List.length_cons, ih]
  exact (Nat.add_div_right r.length (by decide)).symm

theorem unhex_byte : ∀ (s : PStr), (∀ c ∈ s, isLowerHexDigit c = true) → ∀ x ∈ unhex s, x < 256 := by
  intro s hall
  fun_induction unhex s with
  | case1 c d r ih =>  -- two digits, then the rest
    obtain ⟨vc, hc16, hvc, _⟩ := lowerHex_digit (hall c (.head _))
    obtain ⟨vd, hd16, hvd, _⟩ := lowerHex_digit (hall d (.tail _ (.head _)))
    rw [hvc, hvd]
    exact List.forall_mem_cons.mpr ⟨mul_add_lt hc16 hd16, ih fun x hx => hall x (.tail _ (.tail _ hx))⟩
  | case2 => nofun  -- fewer than two characters

theorem hexOfBytes_length (b : Bytes) : (hexOfBytes b).length = 2 * b.length := by
  fun_induction hexOfBytes b with
  | case1 => rfl
  | case2 x r ih => rw [List.length_cons, List.length_cons, ih, List.length_cons, Nat.mul_succ]

theorem hexOfBytes_lower (b : Bytes) : ∀ c ∈ hexOfBytes b, isLowerHexDigit c = true := by
  induction b with
  | nil => intro c h; simp [hexOfBytes] at h
  | cons x r ih =>
    intro c h
    simp only [hexOfBytes, List.mem_cons] at h
    rcases h with rfl | rfl | h
    · exact hexDigit_lower _ (Nat.mod_lt _ (by decide))
    · exact hexDigit_lower _ (Nat.mod_lt _ (by decide))
    · exact ih c h

theorem lowerHex_hexOfBytes (b : Bytes) (h : b ≠ []) : LowerHex (hexOfBytes b) := by
  refine ⟨?_, by rw [hexOfBytes_length]; exact Nat.mul_mod_right 2 _, hexOfBytes_lower b⟩
  cases b with
  | nil => exact absurd rfl h
  | cons x r => simp [hexOfBytes]

end CCT
