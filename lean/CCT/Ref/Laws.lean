import CCT.Ref.Crypto
/-!
`Crypto` (Model/Auth.lean) assumes five laws about the primitives.  Four of them — signature and public-key *shape* — are proved here for the
reference implementation the driver runs (`refCrypto`, RFC 8032 §5.1 transcribed); the fifth, `correct` (a signature verifies under its own
public key), needs the group law of the curve and is left to differential testing against OpenSSL (C19).
-/
namespace CCT.Ref
open CCT

theorem natLE_length (n len : Nat) : (natLE n len).length = len := by simp [natLE]

theorem ofB8_length (b : B8) : (ofB8 b).length = b.length := by simp [ofB8]

theorem ofB8_byte (b : B8) : ∀ x ∈ ofB8 b, x < 256 := by
  intro x hx
  simp only [ofB8, List.mem_map] at hx
  obtain ⟨u, _, rfl⟩ := hx
  exact u.toNat_lt

theorem compressPt_length (P : Pt) : (compressPt P).length = 32 := by simp [compressPt, natLE_length]

theorem ref_pub_len (s : Bytes) : (refCrypto.pubOf s).length = 32 := by
  simp [refCrypto, publicKey, ofB8_length, compressPt_length]

theorem ref_pub_byte (s : Bytes) : ∀ b ∈ refCrypto.pubOf s, b < 256 := ofB8_byte _

theorem ref_sign_len (s m : Bytes) : (refCrypto.sign s m).length = 64 := by
  simp [refCrypto, sign, ofB8_length, compressPt_length, natLE_length]

theorem ref_sign_byte (s m : Bytes) : ∀ b ∈ refCrypto.sign s m, b < 256 := ofB8_byte _

/-- the reference verification refuses every signature whose scalar half is not reduced below the group order `L` — so adding `L` to the scalar
of a valid signature, the classic way to make a second valid-looking signature, gives a rejected one -/
theorem ref_verify_rejects_unreduced_scalar (pub msg sig : B8) (h : L ≤ leNat (sig.drop 32)) : verify pub msg sig = false := by
  fun_cases verify pub msg sig with
  | case3 _ _ hs => exact absurd h hs        -- the branch that computes: scalar below `L`
  | _ => rfl

theorem ref_verify_lengths (pub msg sig : B8) (h : verify pub msg sig = true) : pub.length = 32 ∧ sig.length = 64 := by
  revert h
  fun_cases verify pub msg sig with
  | case1 => nofun                           -- a wrong length
  | _ hl => exact fun _ => by simpa only [bne_iff_ne, ne_eq, Bool.or_eq_true, not_or, Decidable.not_not] using hl

/-- the reference implementation is a `Crypto` as soon as its correctness law is granted (the only law not proved here) -/
def refCryptoOf (hc : ∀ s m, s.length = 32 → refCrypto.verify (refCrypto.pubOf s) m (refCrypto.sign s m) = true) : Crypto :=
  { refCrypto with
    sign_len := fun s m _ => ref_sign_len s m
    sign_byte := fun s m _ => ref_sign_byte s m
    pub_len := fun s _ => ref_pub_len s
    pub_byte := fun s _ => ref_pub_byte s
    correct := hc }

end CCT.Ref
